/-
  C07 — Zero-copy blocks are padded to their alignment unit; byte counts are exact.
-/
import EpsModel.Lemmas.BlocksL
import EpsModel.Props.C02
namespace Eps.C07

/-! ### The padding formula, for all (offset, power-of-two unit) pairs -/

/-- `pad` is literally the crate's formula `value.wrapping_neg() & (align_to - 1)` on 64-bit words. -/
theorem pad_is_bit_formula (pos u : Nat) (hu : 0 < u) (hu2 : u < 2^64) :
    ((-(BitVec.ofNat 64 pos)) &&& (BitVec.ofNat 64 u - 1#64)).toNat = pad pos u := by
  -- `1 ≤ u < 2^64`: the subtraction does not wrap
  have hle : 1#64 ≤ BitVec.ofNat 64 u := by
    rw [BitVec.le_def, BitVec.toNat_ofNat, BitVec.toNat_ofNat, Nat.mod_eq_of_lt hu2]; exact hu
  unfold pad
  rw [BitVec.toNat_and, BitVec.toNat_neg, BitVec.toNat_sub_of_le hle, BitVec.toNat_ofNat, BitVec.toNat_ofNat,
    Nat.mod_eq_of_lt hu2]
  rfl

/-- For every offset and every power-of-two unit (up to 2^63): the padded offset is a multiple of the
    unit, the gap is smaller than the unit, and no smaller gap reaches a multiple. -/
theorem pad_spec (pos k : Nat) (hk : k ≤ 63) :
    (pos + pad pos (2^k)) % 2^k = 0 ∧ pad pos (2^k) < 2^k ∧
    ∀ g, (pos + g) % 2^k = 0 → pad pos (2^k) ≤ g := by
  rw [pad_eq_padNat pos k (Nat.le_succ_of_le hk)]
  have hp := Nat.two_pow_pos k
  exact ⟨padNat_spec hp, padNat_lt hp, fun g hg => padNat_min hp hg⟩

/-- The alignment unit of every zero-copy type of the well-formed universe is a power of two, no
    smaller than the native alignment (which is a power of two as well). -/
theorem unit_pow2 (T : Ty) (hz : T.isZC = true) (hw : T.wf = true) :
    (∃ k, k ≤ 63 ∧ T.maxSizeOf = 2^k) ∧ T.alignOf ≤ T.maxSizeOf :=
  ⟨(Ty.units T hz hw).2.1, (Ty.units T hz hw).2.2⟩

/-- … and no smaller than the unit of any field (structures), resp. equal to the unit of the
    element (arrays, tuples). -/
theorem unit_ge_field (m : AdtMeta) (vn : B) (fds : Fields) (n : B) (e : Bool) (t : Ty)
    (h : Fields.mem n e t fds) : t.maxSizeOf ≤ (Ty.adt m (.cons vn fds .nil)).maxSizeOf :=
  Nat.le_trans (Fields.unit_le fds n e t h)
    (Nat.le_trans (Nat.le_max_left _ (Variants.maxUnit .nil)) (Nat.le_max_right (Ty.alignOf _) _))
theorem unit_array (t : Ty) (n : Nat) : (Ty.array t n).maxSizeOf = t.maxSizeOf := rfl
theorem unit_tuple (t : Ty) (n : Nat) : (Ty.tuple t n).maxSizeOf = t.maxSizeOf := rfl

/-- In every serialized body, wherever it starts, each block of zero-copy data (strings included)
    starts at a stream offset that is a multiple of its unit. -/
theorem blocks_aligned (T : Ty) (hw : T.wf = true) (v : Val) (pos : Nat) :
    ∀ b ∈ T.blocks v pos, b.off % b.unit = 0 :=
  Ty.blocks_ok T hw v pos

/-- What the writer emits for a zero-copy structure / tuple / array and for a sequence of zero-copy
    elements: the length (sequences), then exactly `pad` zero bytes, then the memory of the data. With
    `pad_spec`: the gap consists of zero bytes only and is the smallest that reaches a multiple. -/
theorem zero_block_shape_struct (m : AdtMeta) (vs : Variants) (fs : List Val) (pos : Nat) (h : m.zero = true) :
    (Ty.adt m vs).enc (.record fs) pos
      = zeros (pad pos (Ty.adt m vs).maxSizeOf) ++ (Ty.adt m vs).toMem (.record fs) :=
  Ty.enc_adt_zero m vs fs pos h
theorem zero_block_shape_tuple (t : Ty) (n : Nat) (vs : List Val) (pos : Nat) :
    (Ty.tuple t n).enc (.seq vs) pos = zeros (pad pos t.maxSizeOf) ++ Ty.toMemList t vs :=
  Ty.enc_tuple t n (.seq vs) pos
theorem zero_block_shape_array (t : Ty) (n : Nat) (vs : List Val) (pos : Nat) (h : t.isZC = true) :
    (Ty.array t n).enc (.seq vs) pos = zeros (pad pos t.maxSizeOf) ++ Ty.toMemList t vs :=
  (Ty.enc_array t n (.seq vs) pos).trans (if_pos h)
theorem zero_block_shape_vec (t : Ty) (vs : List Val) (pos : Nat) (h : t.isZC = true) :
    (Ty.vec t).enc (.seq vs) pos
      = leBytes 8 vs.length ++ zeros (pad (pos + 8) t.maxSizeOf) ++ Ty.toMemList t vs := by
  rw [Ty.enc_vec]; unfold Ty.encSeq; exact if_pos h

/-- The count returned by `serialize` is the number of bytes handed to the writer (in the model:
    the length of the stream), and the full-copy deserializer consumes exactly that many bytes. -/
theorem count_exact_full (H : B → Nat) (hH : ∀ b, H b < 2^64) (T : Ty) (name : B) (v : Val)
    (hT : T.wf = true) (hv : T.wt v = true) (hname : validUtf8 name = true) (hlen : name.length < 2^63) :
    ∃ x, T.deFull H (T.ser H name v) = .ok (x, (T.ser H name v).length) :=
  ⟨v, C01.deFull_ser H hH T name v hT hv hname hlen⟩

/-- The ε-copy deserializer likewise consumes exactly the bytes written, from any buffer whose base
    address is a multiple of the unit of every block of the stream. -/
theorem count_exact_eps (H : B → Nat) (hH : ∀ b, H b < 2^64) (T : Ty) (name : B) (v : Val) (base : Nat)
    (hT : T.wf = true) (hv : T.wt v = true) (hname : validUtf8 name = true) (hlen : name.length < 2^63)
    (hb : ∀ b ∈ T.blocks v (T.header H name).length, base % b.unit = 0) :
    ∃ e, T.deEps H base (T.ser H name v) = .ok (e, (T.ser H name v).length) := by
  obtain ⟨e, he, _⟩ := C02.deEps_ser H hH T name v base hT hv hname hlen hb
  exact ⟨e, he⟩

/-! Non-vacuity -/
example : (Ty.vec (.prim (.int .u64))).wf = true := by simp [Ty.wf, Ty.isZC]
example : pad 37 8 = 3 ∧ pad 40 8 = 0 ∧ pad 41 16 = 7 := by decide

end Eps.C07
