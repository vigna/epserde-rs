/-
  C05 — Derived implementations are correct for every user type in the grammar.

  The derive macro is modelled at the level it works at: a definition (`Def`) with type and const
  parameters whose field types are expressions over the parameters, and `Def.derive`, the
  instantiated type together with the per-field decision "ε-copy method or full-copy method". The
  theorems: (i) the decision is exactly "the declared type is literally a type parameter";
  (ii) consequently, whatever bytes are read, the ε-copy result of a derived deep-copy structure has
  the ε-copy shape at the literal-parameter fields and an owned, fully deserialized value at all
  others (including those that merely mention a parameter), and a derived zero-copy structure
  becomes a reference; (iii) derived types round-trip in both modes (instances of C01/C02 at
  `Def.derive`); (iv) the attribute check. That `Def.derive` is what the macro generates is the
  correspondence (the generated universe: `derive`, `dtype` and round-trip lines) — the macro's
  token manipulation itself is not modelled.
-/
import EpsModel.Derive
import EpsModel.Lemmas.ConformL
import EpsModel.Props.C01
import EpsModel.Props.C02
namespace Eps.C05

/-! ### (i) Classification of fields -/

def flags : Fields → List Bool
  | .nil => []
  | .cons _ f _ r => f :: flags r

def types : Fields → List Ty
  | .nil => []
  | .cons _ _ t r => t :: types r

def names : Fields → List B
  | .nil => []
  | .cons n _ _ r => n :: names r

theorem isParam_iff (e : TyExpr) : e.isParam = true ↔ ∃ i, e = .param i := by
  cases e <;> simp [TyExpr.isParam]

/-- The generated code calls the ε-copy method for a field iff its declared type is literally a
    type parameter; names, order and instantiated types are those of the definition. -/
theorem instFields_spec (ta : List Ty) (ca : List Nat) (fs : List FieldDef) :
    flags (instFields ta ca fs) = fs.map (·.te.isParam) ∧
    types (instFields ta ca fs) = fs.map (·.te.inst ta ca) ∧
    names (instFields ta ca fs) = fs.map (·.name) := by
  induction fs with
  | nil => exact ⟨rfl, rfl, rfl⟩
  | cons f fs ih => exact ⟨congrArg (_ :: ·) ih.1, congrArg (_ :: ·) ih.2.1, congrArg (_ :: ·) ih.2.2⟩

/-- A field that merely mentions a parameter (`Vec<T>`, `[T; N]`, `Option<T>`, …) is not
    parameter-typed. -/
theorem mentions_not_literal (e : TyExpr) (h : ∀ i, e ≠ .param i) : e.isParam = false :=
  Bool.eq_false_iff.mpr fun hp => let ⟨i, hi⟩ := (isParam_iff e).mp hp; h i hi

/-- The replaced parameters are exactly those that are the type of some field. -/
theorem mem_replacedParams (d : Def) (i : Nat) :
    i ∈ d.replacedParams ↔ i < d.nTypeParams ∧ ∃ v ∈ d.variants, ∃ f ∈ v.fields, f.te = .param i := by
  simp only [Def.replacedParams, List.mem_filter, List.mem_range, List.any_eq_true]
  refine and_congr_right fun _ => exists_congr fun v => and_congr_right fun _ => exists_congr fun f =>
    and_congr_right fun _ => ?_
  cases f.te <;> simp
  exact eq_comm

/-! ### (ii) The ε-copy type -/

/-- Field by field, for *any* result of the ε-copy reader over the fields of a definition: a
    field whose declared type is the parameter `i` has the ε-copy shape of the argument; every
    other field is an owned, fully deserialized value. -/
theorem fields_shape (ta : List Ty) (ca : List Nat) : ∀ (fs : List FieldDef) (es : List EVal),
    Fields.Conforms (instFields ta ca fs) es →
    es.length = fs.length ∧
    ∀ (k : Nat) (f : FieldDef) (e : EVal), fs[k]? = some f → es[k]? = some e →
      (∀ i, f.te = .param i → (ta.getD i (.prim .unit)).Conforms e) ∧
      ((∀ i, f.te ≠ .param i) → ∃ v, e = .full v)
  | [], _, h => by cases h; exact ⟨rfl, fun k f e hf => nomatch hf⟩
  | f :: fs, _, h => by
    obtain ⟨e, rest, rfl, hhead, hrest⟩ := h
    obtain ⟨hl, ih⟩ := fields_shape ta ca fs rest hrest
    refine ⟨congrArg (· + 1) hl, fun k g x hg hx => ?_⟩
    cases k with
    | zero =>
      cases hg; cases hx
      exact ⟨fun i hi => by rw [hi] at hhead; exact hhead,
        fun hn => by rw [mentions_not_literal _ hn] at hhead; exact hhead⟩
    | succ k => exact ih k g x hg hx

/-- The variant read is one of the definition, and the result has the shape of its fields. -/
theorem variants_shape (ta : List Ty) (ca : List Nat) (es : List EVal) : ∀ (vs : List VariantDef) (i : Nat),
    Variants.Conforms (instVariants ta ca vs) i es → ∃ vd, vs[i]? = some vd ∧ Fields.Conforms (instFields ta ca vd.fields) es
  | [], _, h => nomatch h
  | v :: _, 0, h => ⟨v, rfl, h⟩
  | _ :: vs, i+1, h => variants_shape ta ca es vs i h

/-- **Deep-copy structures.** Whatever the bytes, if the ε-copy reader of a derived deep-copy
    struct returns, it returns a structure with one component per field, parameter-typed fields
    replaced by the ε-copy form of the argument, all other fields owned. -/
theorem derived_struct_eps_shape (d : Def) (vname : B) (fs : List FieldDef) (ta : List Ty) (ca : List Nat) (base : Nat)
    (hz : d.zero = false) (he : d.isEnum = false) (hv : d.variants = [⟨vname, fs⟩])
    (data : B) (pos : Nat) (e : EVal) (data' : B) (pos' : Nat)
    (h : (d.derive ta ca).decEps base data pos = .ok (e, data', pos')) :
    ∃ es, e = .record es ∧ es.length = fs.length ∧
      ∀ (k : Nat) (f : FieldDef) (x : EVal), fs[k]? = some f → es[k]? = some x →
        (∀ i, f.te = .param i → (ta.getD i (.prim .unit)).Conforms x) ∧
        ((∀ i, f.te ≠ .param i) → ∃ v, x = .full v) := by
  have hc := (Ty.Conforms_adt _ _ e).mp (Ty.decEps_conforms base _ _ _ _ _ _ h)
  rw [if_neg (Bool.eq_false_iff.mp hz), if_neg (Bool.eq_false_iff.mp he), hv] at hc
  obtain ⟨es, hes, hf⟩ := hc
  exact ⟨es, hes, fields_shape ta ca fs es hf⟩

/-- **Deep-copy enums**: the same, for the fields of the variant that was read. -/
theorem derived_enum_eps_shape (d : Def) (ta : List Ty) (ca : List Nat) (base : Nat)
    (hz : d.zero = false) (he : d.isEnum = true)
    (data : B) (pos : Nat) (e : EVal) (data' : B) (pos' : Nat)
    (h : (d.derive ta ca).decEps base data pos = .ok (e, data', pos')) :
    ∃ i es vd, e = .variant i es ∧ d.variants[i]? = some vd ∧ es.length = vd.fields.length ∧
      ∀ (k : Nat) (f : FieldDef) (x : EVal), vd.fields[k]? = some f → es[k]? = some x →
        (∀ j, f.te = .param j → (ta.getD j (.prim .unit)).Conforms x) ∧
        ((∀ j, f.te ≠ .param j) → ∃ v, x = .full v) := by
  have hc := (Ty.Conforms_adt _ _ e).mp (Ty.decEps_conforms base _ _ _ _ _ _ h)
  rw [if_neg (Bool.eq_false_iff.mp hz), if_pos he] at hc
  obtain ⟨i, es, hes, hv⟩ := hc
  obtain ⟨vd, hvd, hf⟩ := variants_shape ta ca es d.variants i hv
  exact ⟨i, es, vd, hes, hvd, fields_shape ta ca vd.fields es hf⟩

/-- **Zero-copy types** become a reference to the type (into the buffer, or — for types of size
    zero — a dangling-but-aligned one), whatever their parameters. -/
theorem derived_zero_eps_is_ref (d : Def) (ta : List Ty) (ca : List Nat) (base : Nat) (hz : d.zero = true)
    (data : B) (pos : Nat) (e : EVal) (data' : B) (pos' : Nat)
    (h : (d.derive ta ca).decEps base data pos = .ok (e, data', pos')) :
    (∃ off v, e = .bRef off (d.derive ta ca) v) ∨ (∃ v, e = .zRef (d.derive ta ca) v) := by
  have hc := (Ty.Conforms_adt _ _ e).mp (Ty.decEps_conforms base _ _ _ _ _ _ h)
  rwa [if_pos hz] at hc

/-! ### (iii) Round trips of derived types -/

theorem derived_roundtrip_full (H : B → Nat) (hH : ∀ b, H b < 2^64) (d : Def) (ta : List Ty) (ca : List Nat)
    (name : B) (v : Val) (hT : (d.derive ta ca).wf = true) (hv : (d.derive ta ca).wt v = true)
    (hname : validUtf8 name = true) (hlen : name.length < 2^63) :
    (d.derive ta ca).deFull H ((d.derive ta ca).ser H name v) = .ok (v, ((d.derive ta ca).ser H name v).length) :=
  C01.deFull_ser H hH _ name v hT hv hname hlen

theorem derived_roundtrip_eps (H : B → Nat) (hH : ∀ b, H b < 2^64) (d : Def) (ta : List Ty) (ca : List Nat)
    (name : B) (v : Val) (base : Nat) (hT : (d.derive ta ca).wf = true) (hv : (d.derive ta ca).wt v = true)
    (hname : validUtf8 name = true) (hlen : name.length < 2^63)
    (hb : ∀ b ∈ (d.derive ta ca).blocks v ((d.derive ta ca).header H name).length, base % b.unit = 0) :
    ∃ e, (d.derive ta ca).deEps H base ((d.derive ta ca).ser H name v) = .ok (e, ((d.derive ta ca).ser H name v).length)
      ∧ e.erase = v :=
  C02.deEps_ser H hH _ name v base hT hv hname hlen hb

/-! ### Well-formedness at definition level -/

/-- The conditions, stated on the definition and its arguments, under which the derived type is in
    the universe the round-trip theorems cover: a power-of-two `align(N)`, every field type
    well formed at the arguments, fewer than 2^64 variants (2^32 for a zero-copy enum, whose tag is
    a C `int`), a struct has exactly one field list, and — for a zero-copy declaration — every field
    type `ZeroCopy` at the arguments (what the derived code demands at compile time, C17). -/
def okAt (d : Def) (ta : List Ty) (ca : List Nat) : Bool :=
  pow2b d.alignAttr &&
  d.variants.all (fun v => v.fields.all fun f => (f.te.inst ta ca).wf) &&
  decide (d.variants.length < 2^64) &&
  (if d.zero then d.variants.all (fun v => v.fields.all fun f => (f.te.inst ta ca).isZC) && decide (d.variants.length < 2^32) else true) &&
  (d.isEnum || d.variants.length == 1)

/-- A conjunction over the fields of a derived type is the conjunction over the field definitions. `all` is
    `Fields.wf` or `Fields.allZC`: both have these clauses by definition. -/
theorem instFields_all {p : Ty → Bool} {all : Fields → Bool} (hn : all .nil = true)
    (hc : ∀ n e u r, all (.cons n e u r) = (p u && all r)) (ta : List Ty) (ca : List Nat) :
    ∀ fs : List FieldDef, all (instFields ta ca fs) = fs.all fun f => p (f.te.inst ta ca)
  | [] => hn
  | f :: fs => by rw [instFields, hc, instFields_all hn hc ta ca fs, List.all_cons]

/-- The same over the variants, for `Variants.wf` and `Variants.allZC`. -/
theorem instVariants_all {p : Ty → Bool} {allF : Fields → Bool} {allV : Variants → Bool} (hfn : allF .nil = true)
    (hfc : ∀ n e u r, allF (.cons n e u r) = (p u && allF r)) (hvn : allV .nil = true)
    (hvc : ∀ n fs r, allV (.cons n fs r) = (allF fs && allV r)) (ta : List Ty) (ca : List Nat) :
    ∀ vs : List VariantDef, allV (instVariants ta ca vs) = vs.all fun v => v.fields.all fun f => p (f.te.inst ta ca)
  | [] => hvn
  | v :: vs => by rw [instVariants, hvc, instFields_all hfn hfc, instVariants_all hfn hfc hvn hvc ta ca vs, List.all_cons]

theorem instVariants_length (ta : List Ty) (ca : List Nat) : ∀ vs : List VariantDef,
    (instVariants ta ca vs).length = vs.length
  | [] => rfl
  | _ :: vs => congrArg (· + 1) (instVariants_length ta ca vs)

/-- The derived type is well formed exactly when the definition is, at the arguments. -/
theorem derive_wf_iff (d : Def) (ta : List Ty) (ca : List Nat) : (d.derive ta ca).wf = okAt d ta ca := by
  unfold Def.derive Ty.wf okAt
  rw [instVariants_all (allV := Variants.wf) rfl (fun _ _ _ _ => rfl) rfl (fun _ _ _ => rfl),
    instVariants_all (allV := Variants.allZC) rfl (fun _ _ _ _ => rfl) rfl (fun _ _ _ => rfl), instVariants_length]

/-- **Every definition of the grammar, every instantiation, every value, both modes**: stated on
    the definition. -/
theorem grammar_roundtrip (H : B → Nat) (hH : ∀ b, H b < 2^64) (d : Def) (ta : List Ty) (ca : List Nat)
    (name : B) (v : Val) (base : Nat) (hd : okAt d ta ca = true) (hv : (d.derive ta ca).wt v = true)
    (hname : validUtf8 name = true) (hlen : name.length < 2^63)
    (hb : ∀ b ∈ (d.derive ta ca).blocks v ((d.derive ta ca).header H name).length, base % b.unit = 0) :
    (d.derive ta ca).deFull H ((d.derive ta ca).ser H name v) = .ok (v, ((d.derive ta ca).ser H name v).length) ∧
    ∃ e, (d.derive ta ca).deEps H base ((d.derive ta ca).ser H name v) = .ok (e, ((d.derive ta ca).ser H name v).length) ∧ e.erase = v := by
  have hT : (d.derive ta ca).wf = true := by rw [derive_wf_iff]; exact hd
  exact ⟨derived_roundtrip_full H hH d ta ca name v hT hv hname hlen,
    derived_roundtrip_eps H hH d ta ca name v base hT hv hname hlen hb⟩

/-! ### (iv) Attribute coherence -/

/-- `check_attrs` refuses exactly: zero-copy without `repr(C)`, and zero-copy together with
    deep-copy. -/
theorem attrsOk_iff (d : Def) :
    d.attrsOk = true ↔ (d.zero = true → [0x43] ∈ d.reprs ∧ d.deepAttr = false) := by
  unfold Def.attrsOk
  cases d.zero <;> simp

/-! ### Non-vacuity: `struct S<T, const N: usize> { a: T, b: Vec<T>, c: [u8; N] }` at `T = Vec<u32>`, `N = 3` -/

def exDef : Def :=
  { name := [0x53], isEnum := false, zero := false, deepAttr := false, reprs := [], alignAttr := 1,
    nTypeParams := 1, constParams := [([0x4e], .int .usize)],
    variants := [⟨[0x53], [⟨[0x61], .param 0⟩, ⟨[0x62], .vec (.param 0)⟩, ⟨[0x63], .constArray (.ty (.prim (.int .u8))) 0⟩]⟩] }

example : exDef.replacedParams = [0] := by decide
example : okAt exDef [.vec (.prim (.int .u32))] [3] = true := by decide
example : (exDef.derive [.vec (.prim (.int .u32))] [3]).wf = true := by decide

end Eps.C05
