/-
  C04 — Bytes written as one type are never accepted as a different type.

  Full injectivity of the hashed byte stream is **false** for the code as it stands
  (`feed_collision_witness`, `bound_alignFeed_noop`: recorded findings, replayed on the real code by
  the check). What is proved, for every type of the universe, is: (i) the header check rejects
  whenever a hash word differs, the type hash first; (ii) type feeds are compositional (context
  cancellation), so a difference at one place of a type is a difference of the whole feed; (iii)
  every near-miss operator of the property changes the feed at the place it is applied. The step
  from "feeds differ" to "64-bit digests differ" is not provable (XXH3 is not injective): it is
  computed for every pair of the explored universe on every run.
-/
import EpsModel.Lemmas.Feeds
import EpsModel.Props.C10
namespace Eps.C04

/-- For every header the reader accepts at all: whatever minor version `mn ≤ versionMinor` the stream
    announces, a differing type-hash word is the type-hash error and (the type hashes being equal) a differing
    alignment-hash word is the alignment-hash error. No accepted version is checked less strictly. -/
theorem header_rejects_any_accepted_minor (th ah mn sth sah : Nat) (name rest : B)
    (hmn : mn ≤ versionMinor) (hsth : sth < 2^64) (hsah : sah < 2^64)
    (hu : validUtf8 name = true) (hl : name.length < 2^63) :
    (sth ≠ th → checkHeader th ah (C10.fixedHdr magic versionMajor mn usizeSize sth sah ++ (leBytes 8 name.length ++ name) ++ rest) 0
        = .err (.wrongTypeHash sth)) ∧
    (sth = th → sah ≠ ah → checkHeader th ah (C10.fixedHdr magic versionMajor mn usizeSize sth sah ++ (leBytes 8 name.length ++ name) ++ rest) 0
        = .err (.wrongAlignHash sah)) := by
  have hmn' : mn < 2^16 := by unfold versionMinor at hmn; omega
  have hd := C10.checkHeader_decision th ah magic versionMajor mn usizeSize sth sah name rest
    (by decide) (by decide) hmn' (by decide) hsth hsah hu hl
  constructor
  · intro h
    rw [hd, C10.err_typeHash th ah mn sth sah hmn h]
  · intro e h
    subst e
    rw [hd, C10.err_alignHash sth ah mn sah hmn h]

/-- In particular for the header `write_header` writes. -/
theorem header_rejects_type (th ah sth sah : Nat) (name rest : B)
    (hsth : sth < 2^64) (hsah : sah < 2^64) (hu : validUtf8 name = true) (hl : name.length < 2^63) (h : sth ≠ th) :
    checkHeader th ah (wHeader sth sah name ++ rest) 0 = .err (.wrongTypeHash sth) := by
  rw [C10.wHeader_eq_fixedHdr]
  exact (header_rejects_any_accepted_minor th ah versionMinor sth sah name rest (Nat.le_refl _) hsth hsah hu hl).1 h

theorem header_rejects_align (th ah sah : Nat) (name rest : B)
    (hth : th < 2^64) (hsah : sah < 2^64) (hu : validUtf8 name = true) (hl : name.length < 2^63) (h : sah ≠ ah) :
    checkHeader th ah (wHeader th sah name ++ rest) 0 = .err (.wrongAlignHash sah) := by
  rw [C10.wHeader_eq_fixedHdr]
  exact (header_rejects_any_accepted_minor th ah versionMinor th sah name rest (Nat.le_refl _) hth hsah hu hl).2 rfl h

/-- Bytes serialized as `T`, read as `U`, in either mode: if the digests of the type feeds differ
    the result is the type-hash error, never a value. -/
theorem cross_type_rejected (H : B → Nat) (hH : ∀ b, H b < 2^64) (T U : Ty) (name : B) (v : Val) (base : Nat)
    (hu : validUtf8 name = true) (hl : name.length < 2^63) (h : H T.typeFeed ≠ H U.typeFeed) :
    U.deFull H (T.ser H name v) = .err (.wrongTypeHash (H T.typeFeed)) ∧
    U.deEps H base (T.ser H name v) = .err (.wrongTypeHash (H T.typeFeed)) := by
  have hc := header_rejects_type (U.typeHash H) (U.alignHash H) (T.typeHash H) (T.alignHash H) name
    (T.enc v (T.header H name).length) (hH _) (hH _) hu hl h
  constructor
  · exact C10.deFull_corrupt H U _ _ hc
  · exact C10.deEps_corrupt H U base _ _ hc

/-- For every one-hole context (vectors, boxed slices, options, bounds, control-flow, arrays,
    ranges, phantom data, a field of a derived struct — nested to any depth): the feeds of the
    filled contexts are equal iff the feeds of the fillers are. -/
theorem typeFeed_ctx_cancel (c : Ctx) (t u : Ty) :
    (c.plug t).typeFeed = (c.plug u).typeFeed ↔ t.typeFeed = u.typeFeed := by
  -- every layer of the context puts the same bytes before and behind the feed of what it holds
  induction c with
  | hole => exact Iff.rfl
  | vec c ih | boxSlice c ih | option c ih | bound c ih | phantom c ih | array n c ih | range k c ih | cfR l c ih =>
    simp only [Ctx.plug, Ty.typeFeed, List.append_assoc, List.append_cancel_left_eq, ih]
  | cfL c r ih =>
    simp only [Ctx.plug, Ty.typeFeed, List.append_cancel_left_eq, List.append_cancel_right_eq, ih]
  | field m vn before name e c after ih =>
    simp only [Ctx.plug, Ty.typeFeed_adt, adtBody, Bool.false_eq_true, if_false, namesFeed_consFields _ (.cons _ _ _ _),
      typesFeed_consFields _ (.cons _ _ _ _), Fields.namesFeed, Fields.typesFeed, List.append_assoc,
      List.append_cancel_left_eq, List.append_cancel_right_eq, ih]

def intKs : List IntK := [.u8, .u16, .u32, .u64, .u128, .usize, .i8, .i16, .i32, .i64, .i128, .isize]

/-- Every primitive. The name table is finite: what is said of it is checked by one evaluation over this list. -/
def prims : List Prim := intKs.map .int ++ intKs.map .nz ++ [.f32, .f64, .bool, .char, .unit]

theorem mem_intKs (k : IntK) : k ∈ intKs := by cases k <;> decide

theorem mem_prims : ∀ p : Prim, p ∈ prims
  | .int k => List.mem_append_left _ (List.mem_append_left _ (List.mem_map_of_mem (mem_intKs k)))
  | .nz k => List.mem_append_left _ (List.mem_append_right _ (List.mem_map_of_mem (mem_intKs k)))
  | .f32 | .f64 | .bool | .char | .unit => List.mem_append_right _ (by decide)

theorem prim_name_noFF (p : Prim) : NoFF p.tyName :=
  noFF_of_all ((by decide : ∀ p ∈ prims, p.tyName.all (fun x => x != 0xff) = true) p (mem_prims p))

theorem inj_of_pairwise_ne {α β} {f : α → β} : ∀ {l : List α}, (l.Pairwise fun a b => f a ≠ f b) →
    ∀ a ∈ l, ∀ b ∈ l, f a = f b → a = b
  | x :: l, h, a, ha, b, hb, e => by
      obtain ⟨hx, hl⟩ := List.pairwise_cons.mp h
      rcases List.mem_cons.mp ha with rfl | ha' <;> rcases List.mem_cons.mp hb with rfl | hb'
      · rfl
      · exact absurd e (hx b hb')
      · exact absurd e.symm (hx a ha')
      · exact inj_of_pairwise_ne hl a ha' b hb' e

/-- Distinct primitives have distinct names. The names are compared as numbers (`leVal`), each pair once: that is
    several times cheaper to evaluate than the equality of byte lists. -/
theorem prim_name_inj (p q : Prim) (h : p.tyName = q.tyName) : p = q :=
  inj_of_pairwise_ne (f := fun p => leVal p.tyName) (by decide) p (mem_prims p) q (mem_prims q) (congrArg leVal h)

/-- **A primitive replaced by a different primitive** (same size or not) changes the feed — and,
    by context cancellation, the feed of every type containing it. -/
theorem prim_feeds_distinct (p q : Prim) (h : p ≠ q) : (Ty.prim p).typeFeed ≠ (Ty.prim q).typeFeed := by
  intro e
  simp only [Ty.typeFeed] at e
  exact h (prim_name_inj p q (hStr_inj _ _ [] [] (prim_name_noFF p) (prim_name_noFF q) (congrArg (· ++ []) e)).1)

theorem field_retyped (c : Ctx) (p q : Prim) (h : p ≠ q) :
    (c.plug (.prim p)).typeFeed ≠ (c.plug (.prim q)).typeFeed :=
  fun e => prim_feeds_distinct p q h ((typeFeed_ctx_cancel c _ _).mp e)

/-- **Sequence kind**: vector, boxed slice and array are told apart. -/
theorem seq_kinds_distinct (t u : Ty) (n : Nat) :
    (Ty.vec t).typeFeed ≠ (Ty.boxSlice u).typeFeed ∧ (Ty.vec t).typeFeed ≠ (Ty.array u n).typeFeed ∧
    (Ty.boxSlice t).typeFeed ≠ (Ty.array u n).typeFeed := by
  simp [Ty.typeFeed, hStr]

/-- **Array length** -/
theorem array_len_distinct (t : Ty) (n m : Nat) (hn : n < 2^64) (hm : m < 2^64) (h : n ≠ m) :
    (Ty.array t n).typeFeed ≠ (Ty.array t m).typeFeed := by
  intro e
  simp only [Ty.typeFeed, List.append_assoc, List.append_cancel_left_eq] at e
  exact h (leBytes_inj (by omega) (by omega) e).1

/-- **Copy kind toggled** -/
theorem copy_kind_distinct (m m' : AdtMeta) (vs vs' : Variants) (h : m.zero ≠ m'.zero) :
    (Ty.adt m vs).typeFeed ≠ (Ty.adt m' vs').typeFeed := by
  intro e
  simp only [Ty.typeFeed_adt, List.append_assoc] at e
  exact h (copyTag_inj (hStr_inj _ _ _ _ (copyTag_noFF m) (copyTag_noFF m') e).1)

/-- **Type renamed** (definitions without const parameters) -/
theorem type_name_distinct (m m' : AdtMeta) (vs vs' : Variants) (hc : m.consts = []) (hc' : m'.consts = [])
    (hz : m.zero = m'.zero) (hn : NoFF m.name) (hn' : NoFF m'.name) (h : m.name ≠ m'.name) :
    (Ty.adt m vs).typeFeed ≠ (Ty.adt m' vs').typeFeed := by
  intro e
  simp only [Ty.typeFeed_adt, copyTag, hz, hc, hc', constValsFeed, constNamesFeed, List.append_nil, List.append_assoc,
    List.append_cancel_left_eq] at e
  exact h (hStr_inj _ _ _ _ hn hn' e).1

/-- **Const value changed** (same const type): the values are hashed first, at a fixed place. -/
theorem const_value_distinct (m : AdtMeta) (vs : Variants) (n : B) (p : Prim) (v v' : Nat) (rest : List (B × Prim × Nat))
    (hv : v < 2 ^ (8 * p.size)) (hv' : v' < 2 ^ (8 * p.size)) (h : v ≠ v') :
    (Ty.adt { m with consts := (n, p, v) :: rest } vs).typeFeed ≠ (Ty.adt { m with consts := (n, p, v') :: rest } vs).typeFeed := by
  intro e
  simp only [Ty.typeFeed_adt, copyTag, constValsFeed, List.append_assoc, List.append_cancel_left_eq] at e
  exact h (leBytes_inj hv hv' e).1

/-- names of the fields, in order -/
def fieldNames : Fields → List B
  | .nil => []
  | .cons n _ _ r => n :: fieldNames r

/-- The names part of a struct feed determines the list of names (among lists of the same length,
    names being identifiers: no 0xff byte). -/
theorem namesFeed_inj : ∀ (f g : Fields) (x y : B), (fieldNames f).length = (fieldNames g).length →
    (∀ n ∈ fieldNames f, NoFF n) → (∀ n ∈ fieldNames g, NoFF n) →
    f.namesFeed ++ x = g.namesFeed ++ y → fieldNames f = fieldNames g ∧ x = y
  | .nil, .nil, _, _, _, _, _, h => ⟨rfl, h⟩
  | .nil, .cons _ _ _ _, _, _, hl, _, _, _ => nomatch hl
  | .cons _ _ _ _, .nil, _, _, hl, _, _, _ => nomatch hl
  | .cons n _ _ r, .cons n' _ _ r', x, y, hl, hf, hg, h => by
    have h1 := hStr_inj n n' _ _ (hf n List.mem_cons_self) (hg n' List.mem_cons_self)
      (by simpa only [Fields.namesFeed, List.append_assoc] using h)
    have ih := namesFeed_inj r r' x y (Nat.succ.inj hl)
      (fun m hm => hf m (List.mem_cons_of_mem _ hm)) (fun m hm => hg m (List.mem_cons_of_mem _ hm)) h1.2
    exact ⟨by rw [fieldNames, fieldNames, h1.1, ih.1], ih.2⟩

/-- **A field renamed, or two fields swapped** (any change of the list of field names that keeps
    their number): the feeds of the two structures differ, whatever the field types. -/
theorem field_names_distinct (m : AdtMeta) (vn vn' : B) (f g : Fields) (he : m.isEnum = false)
    (hl : (fieldNames f).length = (fieldNames g).length)
    (hf : ∀ n ∈ fieldNames f, NoFF n) (hg : ∀ n ∈ fieldNames g, NoFF n) (h : fieldNames f ≠ fieldNames g) :
    (Ty.adt m (.cons vn f .nil)).typeFeed ≠ (Ty.adt m (.cons vn' g .nil)).typeFeed := by
  intro e
  simp only [Ty.typeFeed_adt, adtBody, he, Bool.false_eq_true, if_false, List.append_assoc, List.append_cancel_left_eq] at e
  exact h (namesFeed_inj f g _ _ hl hf hg e).1

/-- append a variant list to another -/
def vappend : Variants → Variants → Variants
  | .nil, w => w
  | .cons n f r, w => .cons n f (vappend r w)

theorem typeFeed_vappend : ∀ (v w : Variants), (vappend v w).typeFeed = v.typeFeed ++ w.typeFeed
  | .nil, w => by simp [vappend, Variants.typeFeed]
  | .cons n f r, w => by simp [vappend, Variants.typeFeed, typeFeed_vappend r w]

/-- **A variant renamed, or variants reordered**: at the first position where the variant names
    differ (after any common prefix `pre` of identical variants), the feeds differ — whatever the
    fields of the two variants and whatever follows. -/
theorem variant_names_distinct (m : AdtMeta) (pre : Variants) (n n' : B) (f f' : Fields) (r r' : Variants)
    (he : m.isEnum = true) (hn : NoFF n) (hn' : NoFF n') (h : n ≠ n') :
    (Ty.adt m (vappend pre (.cons n f r))).typeFeed ≠ (Ty.adt m (vappend pre (.cons n' f' r'))).typeFeed := by
  intro e
  simp only [Ty.typeFeed_adt, adtBody, he, if_true, typeFeed_vappend, Variants.typeFeed, List.append_assoc,
    List.append_cancel_left_eq] at e
  exact h (hStr_inj n n' _ _ hn hn' e).1

/-- Non-vacuity: `struct S { a: u8, b: u8 }` versus `struct S { b: u8, a: u8 }`. -/
example : fieldNames (.cons [0x61] false (.prim (.int .u8)) (.cons [0x62] false (.prim (.int .u8)) .nil)) ≠
    fieldNames (.cons [0x62] false (.prim (.int .u8)) (.cons [0x61] false (.prim (.int .u8)) .nil)) := by
  simp [fieldNames]

/-- the witness pair of the known collision -/
def collA : Ty := .adt ⟨[0x61], false, false, false, [], 1, [([0x4e], .int .u16, 0xff53)]⟩
  (.cons [0x61] (.cons [0x62] false (.tuple (.prim (.int .u8)) 3) .nil) .nil)
def collS : Ty := .adt ⟨[0x53], false, false, false, [], 1, []⟩
  (.cons [0x53] (.cons [0x4e] false (.tuple (.prim (.int .u8)) 1)
    (.cons [0x61] false (.prim (.int .u8)) (.cons [0x62] false (.prim (.int .u8)) .nil))) .nil)

/-- `struct a<const N: u16 = 0xff53> { b: (u8,u8,u8) }` and `struct S { N: (u8,), a: u8, b: u8 }` have
    the same type feed and the same alignment feed: the two hashes cannot tell them apart. -/
theorem feed_collision_witness : collA.typeFeed = collS.typeFeed ∧ (collA.alignFeed 0).1 = (collS.alignFeed 0).1 := by
  constructor
  · simp [collA, collS, Ty.typeFeed, Ty.typeFeedRep, constValsFeed, constNamesFeed, Fields.namesFeed, Fields.typesFeed,
      hStr, leBytes, Prim.size, IntK.size, Prim.tyName]
  · simp [collA, collS, Ty.alignFeed, Ty.alignFeedRep, Fields.alignFeedDeep, stdAlignFeed, Prim.size, Prim.align, IntK.size, pad]

/-- `AlignHash for Bound<T>` feeds nothing, whatever `T` is: the layout of a zero-copy type stored
    under `Bound<..>` is invisible to the alignment hash (`Option`, `Vec`, … do recurse). -/
theorem bound_alignFeed_noop (t : Ty) (off : Nat) : (Ty.bound t).alignFeed off = ([], off) := by
  simp [Ty.alignFeed]
theorem option_alignFeed_recurses (t : Ty) (off : Nat) : (Ty.option t).alignFeed off = ((t.alignFeed 0).1, off) := by
  simp [Ty.alignFeed]

/-- Non-vacuity: a context two levels deep. -/
example : (Ctx.vec (Ctx.option Ctx.hole)).plug (.prim (.int .u8)) = .vec (.option (.prim (.int .u8))) := rfl

end Eps.C04
