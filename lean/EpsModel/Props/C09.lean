/-
  C09 — Backing memory outlives every safe use and is released exactly once.

  Two small decision models (the runtime itself — the allocator, `munmap`, rustc's borrow checker
  — is what the correspondence exercises): the trace of acquire/use/release events of every loader
  on every path, and the lifetimes the API signatures attach to the handles a client can obtain.
-/
import EpsModel.Resources
namespace Eps.C09

/-- nothing at all, or one acquire, then uses only, then one release -/
def Bracketed (t : List REv) : Prop := t = [] ∨ ∃ n, t = .acquire :: (List.replicate n .use ++ [.release])

theorem Bracketed.ite {c : Prop} [Decidable c] {a b : List REv} (ha : Bracketed a) (hb : Bracketed b) :
    Bracketed (if c then a else b) := by
  split <;> assumption

/-- Every loader, on every path: the branches of `loadTrace` one by one. -/
theorem loadTrace_bracketed (l : Loader) (p : LoadPath) : Bracketed (loadTrace l p) := by
  obtain ⟨k, hk⟩ : ∃ k, (if l = .map then [] else [REv.use]) = List.replicate k .use := by
    split
    · exact ⟨0, rfl⟩
    · exact ⟨1, rfl⟩
  unfold loadTrace
  simp only [hk]
  refine .ite (.inl rfl) <| .ite (.inl rfl) <| .ite (.inl rfl) <| .ite (.inr ⟨k, rfl⟩) ?_
  generalize p.deser = d
  cases d
  · exact .inr ⟨k + 1 + p.uses, by simp [← List.replicate_append_replicate]⟩
  · exact .inr ⟨k + 1, by simp [← List.replicate_append_replicate]⟩

/-- **Released exactly once, after the last use, on every path**: success followed by any number
    of uses and the drop of the case, failure to open, to map, to read, deserialization returning
    an error, deserialization panicking — for every loader. -/
theorem release_once (l : Loader) (p : LoadPath) :
    countEv .acquire (loadTrace l p) = countEv .release (loadTrace l p) ∧
    countEv .acquire (loadTrace l p) ≤ 1 ∧
    (loadTrace l p = [] ∨ wellBracketed (loadTrace l p) = true) := by
  rcases loadTrace_bracketed l p with h | ⟨n, h⟩ <;> rw [h]
  · exact ⟨rfl, Nat.zero_le _, .inl rfl⟩
  · simp [countEv, wellBracketed, List.filter_append]

/-- **Nothing is leaked when loading fails**: on every failing path the trace is empty or ends with
    the release. -/
theorem fail_no_leak (l : Loader) (p : LoadPath) (h : p.deser ≠ 0 ∨ p.readOk = false ∨ p.mapOk = false ∨ p.openOk = false) :
    countEv .acquire (loadTrace l p) = countEv .release (loadTrace l p) :=
  (release_once l p).1

/-- **ε-copy results cannot outlive the buffer**: the handle carries the lifetime of the buffer. -/
theorem eps_borrow_bounded : bounded .epsResult = true ∧ handleLt .epsResult = .buf := by decide

/-- References obtained through `Deref` / `AsRef` are bounded by the borrow of the case. -/
theorem case_ref_bounded : bounded .caseDerefRef = true := by decide

/-- **Finding** (recorded, not repaired: the repair is a redesign of `MemCase`): the structure
    copied out of a case — `*case` when it is `Copy`, or any `Copy` field such as a `&'a [T]` — carries
    the lifetime the *caller* chose for `DeserType<'a>`, up to `'static`, not the lifetime of the case. -/
theorem case_copy_unbounded : bounded .caseDerefCopy = false ∧ handleLt .caseDerefCopy = .static := by decide

/-- Non-vacuity: a successful `load_mem` used twice. -/
example : loadTrace .mem ⟨true, true, true, 0, 2⟩ = [.acquire, .use, .use, .use, .use, .release] := by
  rfl

/-- Whatever the items do, a construction that does not succeed leaves nothing alive, whether the
    failing item returned an error or panicked, and wherever it sits in the array. -/
theorem partial_array_released : ∀ (items : List ItemOutcome) (acc : Nat),
    (buildArray items acc).2 ≠ .ok → (buildArray items acc).1 = 0
  | [], _, h => absurd rfl h
  | .built hp :: rest, acc, h => partial_array_released rest (acc + hp) h
  | .failed :: _, _, _ => rfl
  | .panicked :: _, _, _ => rfl

/-- A successful construction owns exactly what its items own. -/
theorem array_ok_owns_items : ∀ (items : List ItemOutcome) (acc : Nat),
    (buildArray items acc).2 = .ok → (buildArray items acc).1 = acc + (items.map fun | .built h => h | _ => 0).sum
  | [], _, _ => rfl
  | .built hp :: rest, acc, h =>
      (array_ok_owns_items rest (acc + hp) h).trans (by rw [List.map_cons, List.sum_cons, Nat.add_assoc])
  | .failed :: _, _, h => nomatch h
  | .panicked :: _, _, h => nomatch h

/-- The defect that was repaired, as a theorem about the unguarded construction: a `[String; 2]` whose
    second item fails keeps the first alive. -/
theorem unguarded_array_leaks : buildArrayNoGuard [.built 15, .failed] 0 = (15, .err) ∧
    buildArrayNoGuard [.built 40, .built 40, .panicked] 0 = (80, .unwound) := by decide

end Eps.C09
