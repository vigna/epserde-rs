/-
  C06 — Emitted bytes conform to the published format (version 1.1) and stay readable.

  The model's writer *is* a declarative description of the format; the theorems below pin, clause
  by clause, what the published description says, so that a symmetric change of writer and reader
  (which C01/C02 would not notice) cannot be followed silently by the model: the constants are
  literals here. The stability half of the property is the golden corpus of the correspondence.
-/
import EpsModel.Lemmas.HeaderL
namespace Eps.C06

/-- Header: magic cookie `b"epserde "`, major 1, minor 1, pointer width 8, type hash, alignment
    hash (little-endian words), then the length-prefixed type name. -/
theorem header_layout (th ah : Nat) (name : B) :
    wHeader th ah name =
      [0x65, 0x70, 0x73, 0x65, 0x72, 0x64, 0x65, 0x20] ++ [1, 0] ++ [1, 0] ++ [8] ++
      leBytes 8 th ++ leBytes 8 ah ++ (leBytes 8 name.length ++ name) := by
  rfl

/-- The stream is the header followed by the value; the hash words are the digests of the two
    published feeds of the (serialization) type. -/
theorem stream_layout (H : B → Nat) (T : Ty) (name : B) (v : Val) :
    T.ser H name v = wHeader (H T.typeFeed) (H (T.alignFeed 0).1) name ++ T.enc v (37 + name.length) := by
  rw [Ty.ser, Ty.header_length]; rfl

/-- Primitives: native-endian (little-endian) bytes of their width, no padding. -/
theorem prim_le (p : Prim) (n pos : Nat) : (Ty.prim p).enc (.bits n) pos = leBytes p.size n := by rw [Ty.enc]

/-- Lengths are pointer-width (8-byte) prefixes; strings are their UTF-8 bytes. -/
theorem string_layout (b : B) (pos : Nat) : Ty.string.enc (.str b) pos = leBytes 8 b.length ++ b := by rw [Ty.enc]
theorem vec_deep_layout (t : Ty) (vs : List Val) (pos : Nat) (h : t.isZC = false) :
    (Ty.vec t).enc (.seq vs) pos = leBytes 8 vs.length ++ Ty.encList t vs (pos + 8) := by
  rw [Ty.enc, Ty.encSeq, if_neg (ne_true_of_eq_false h)]
/-- Zero-copy data: after zero padding to the unit, the in-memory representation. -/
theorem vec_zero_layout (t : Ty) (vs : List Val) (pos : Nat) (h : t.isZC = true) :
    (Ty.vec t).enc (.seq vs) pos = leBytes 8 vs.length ++ zeros (pad (pos + 8) t.maxSizeOf) ++ Ty.toMemList t vs := by
  rw [Ty.enc, Ty.encSeq, if_pos h]
theorem struct_zero_layout (m : AdtMeta) (vs : Variants) (fs : List Val) (pos : Nat) (h : m.zero = true) :
    (Ty.adt m vs).enc (.record fs) pos = zeros (pad pos (Ty.adt m vs).maxSizeOf) ++ (Ty.adt m vs).toMem (.record fs) :=
  Ty.enc_adt_zero m vs fs pos h

/-- One-byte tags: options 0/1, bounds 0/1/2, control-flow 0 (Break) / 1 (Continue). -/
theorem option_tags (t : Ty) (v : Val) (pos : Nat) :
    (Ty.option t).enc (.variant 0 []) pos = [0] ∧ (Ty.option t).enc (.variant 1 [v]) pos = 1 :: t.enc v (pos + 1) :=
  ⟨Ty.enc_option t _ pos, Ty.enc_option t _ pos⟩
theorem bound_tags (t : Ty) (v : Val) (pos : Nat) :
    (Ty.bound t).enc (.variant 0 []) pos = [0] ∧ (Ty.bound t).enc (.variant 1 [v]) pos = 1 :: t.enc v (pos + 1) ∧
    (Ty.bound t).enc (.variant 2 [v]) pos = 2 :: t.enc v (pos + 1) :=
  ⟨Ty.enc_bound t _ pos, Ty.enc_bound t _ pos, Ty.enc_bound t _ pos⟩
theorem controlFlow_tags (b c : Ty) (v : Val) (pos : Nat) :
    (Ty.controlFlow b c).enc (.variant 0 [v]) pos = 0 :: b.enc v (pos + 1) ∧
    (Ty.controlFlow b c).enc (.variant 1 [v]) pos = 1 :: c.enc v (pos + 1) :=
  ⟨Ty.enc_controlFlow b c _ pos, Ty.enc_controlFlow b c _ pos⟩

/-- Derived enums: a pointer-width variant index, then the fields in declaration order;
    derived structs: the fields in declaration order. -/
theorem enum_layout (m : AdtMeta) (vs : Variants) (i : Nat) (fs : List Val) (pos : Nat) (h : m.zero = false) :
    (Ty.adt m vs).enc (.variant i fs) pos = leBytes 8 i ++ vs.enc i fs (pos + 8) :=
  Ty.enc_adt_enum m vs i fs pos h
theorem fields_in_order (n : B) (e : Bool) (t : Ty) (r : Fields) (v : Val) (vs : List Val) (pos : Nat) :
    (Fields.cons n e t r).enc (v :: vs) pos = t.enc v pos ++ r.enc vs (pos + (t.enc v pos).length) := by
  rw [Fields.enc]

/-- The hash recipe (what is fed to the hasher) of one building block: the name `Vec`, the separator, the recipe
    of the item type. -/
theorem typeFeed_vec (t : Ty) : (Ty.vec t).typeFeed = [0x56, 0x65, 0x63] ++ [0xff] ++ t.typeFeed := by
  rw [Ty.typeFeed, hStr]

end Eps.C06
