/-
  C13 — Writer failures yield an error, a clean prefix, and an intact source value.

  The statements quantify over *every* sink obeying the `write_all` contract, every fault schedule
  and every way the serializer may chunk its output (`chunks.flatten` is the fault-free output).
-/
import EpsModel.IO
namespace Eps.C13
open Eps.IO

/-- `Write::write_all` over any device and schedule (short writes, `Interrupted`, failures at any
    point) obeys the contract: what was accepted is a prefix of the buffer, and `Ok` is returned
    only if all of it was accepted. -/
theorem writeAll_contract : ∀ (rs : List Resp) (buf : B),
    (writeAll rs buf).1 <+: buf ∧ ((writeAll rs buf).2.2 = true → (writeAll rs buf).1 = buf) := by
  intro rs buf
  -- the cases of `writeAll.induct` are the clauses of `writeAll` in order; the last clause gives two, one per branch
  induction rs, buf using writeAll.induct with
  | case1 | case2 | case4 | case5 => simp [writeAll]
  | case3 rs b bs ih => rw [writeAll]; exact ih
  | case6 n rs b bs h => rw [writeAll, if_pos h]; simp
  | case7 n rs b bs h ih =>
      rw [writeAll, if_neg h]
      refine ⟨?_, fun hok => ?_⟩
      · obtain ⟨t, ht⟩ := ih.1
        exact ⟨t, by rw [List.append_assoc, ht, List.take_append_drop]⟩
      · show _ ++ _ = _
        rw [ih.2 hok, List.take_append_drop]

theorem runSink_cons_all (sk : Sink) (acc c : B) (cs : List B) (h : c.length ≤ sk.accept acc c) :
    runSink sk acc (c :: cs) = runSink sk (acc ++ c) cs := by
  rw [runSink]; exact if_neg (Nat.not_lt.mpr (Nat.le_min.mpr ⟨h, Nat.le_refl _⟩))

theorem runSink_cons_short (sk : Sink) (acc c : B) (cs : List B) (h : sk.accept acc c < c.length) :
    runSink sk acc (c :: cs) = (acc ++ c.take (sk.accept acc c), .writeError) := by
  rw [runSink]; simp only [Nat.min_eq_left (Nat.le_of_lt h)]; exact if_pos h

/-- **Prefix**: whatever the sink does, the bytes it accepted are a prefix of the fault-free output
    (here: of what was accepted before followed by all the chunks). -/
theorem runSink_prefix (sk : Sink) : ∀ (cs : List B) (acc : B),
    acc <+: (runSink sk acc cs).1 ∧ (runSink sk acc cs).1 <+: acc ++ cs.flatten
  | [], acc => by simp [runSink]
  | c :: cs, acc => by
      rw [List.flatten_cons, ← List.append_assoc]
      rcases Nat.lt_or_ge (sk.accept acc c) c.length with h | h
      · rw [runSink_cons_short sk acc c cs h]
        exact ⟨List.prefix_append _ _,
          ((List.prefix_append_right_inj acc).mpr (List.take_prefix _ c)).trans (List.prefix_append _ _)⟩
      · rw [runSink_cons_all sk acc c cs h]
        exact ⟨(List.prefix_append _ _).trans (runSink_prefix sk cs (acc ++ c)).1, (runSink_prefix sk cs (acc ++ c)).2⟩

/-- **Result**: success is reported only if every byte was accepted (and flush succeeded); the
    count is then the number of bytes handed to the sink. Never success on a failing sink. -/
theorem runSink_ok (sk : Sink) : ∀ (cs : List B) (acc : B) (n : Nat),
    (runSink sk acc cs).2 = .ok n →
      (runSink sk acc cs).1 = acc ++ cs.flatten ∧ n = (acc ++ cs.flatten).length ∧ sk.flushOk (acc ++ cs.flatten) = true
  | [], acc, n => by
      rw [List.flatten_nil, List.append_nil, runSink]
      cases sk.flushOk acc with
      | false => intro h; cases h
      | true => intro h; cases h; exact ⟨rfl, rfl, rfl⟩
  | c :: cs, acc, n => by
      rw [List.flatten_cons, ← List.append_assoc]
      rcases Nat.lt_or_ge (sk.accept acc c) c.length with h | h
      · rw [runSink_cons_short sk acc c cs h]; intro h; cases h
      · rw [runSink_cons_all sk acc c cs h]; exact runSink_ok sk cs (acc ++ c) n

/-- A sink that merely splits or retries writes, i.e. ends up taking every chunk entirely, receives
    exactly the fault-free bytes, and serialization succeeds with the exact count. -/
theorem split_ok (sk : Sink) (hacc : ∀ acc c, c.length ≤ sk.accept acc c) (hfl : ∀ acc, sk.flushOk acc = true) :
    ∀ (cs : List B) (acc : B), runSink sk acc cs = (acc ++ cs.flatten, .ok (acc ++ cs.flatten).length)
  | [], acc => by simp [runSink, hfl]
  | c :: cs, acc => by
      rw [runSink_cons_all sk acc c cs (hacc acc c), split_ok sk hacc hfl cs (acc ++ c), List.flatten_cons, List.append_assoc]

/-- **Failure at every position**: a sink that accepts `k` bytes in total and then refuses — for
    every `k`, every chunking — has accepted exactly the first `k` bytes of the output, and the
    result is a write error iff `k` is less than the length of the output (or flush fails). -/
theorem budget_run (k : Nat) (ff : Bool) : ∀ (cs : List B) (acc : B), acc.length ≤ k →
    runSink (budgetSink k ff) acc cs =
      ((acc ++ cs.flatten).take k,
       if k < (acc ++ cs.flatten).length then .writeError
       else if ff then .writeError else .ok (acc ++ cs.flatten).length)
  | [], acc, h => by
      simp only [runSink, budgetSink, List.flatten_nil, List.append_nil, Nat.not_lt.mpr h, if_false]
      rw [List.take_of_length_le h]
      cases ff <;> simp
  | c :: cs, acc, h => by
      have hacc : (budgetSink k ff).accept acc c = min c.length (k - acc.length) := rfl
      rw [List.flatten_cons, ← List.append_assoc]
      -- the chunk fits into what is left of the budget, or the budget ends inside it
      by_cases hfit : c.length ≤ k - acc.length
      · rw [runSink_cons_all _ _ _ _ (Nat.le_of_eq (hacc.trans (Nat.min_eq_left hfit)).symm),
          budget_run k ff cs (acc ++ c) (by rw [List.length_append]; exact Nat.add_le_of_le_sub' h hfit)]
      · have hlt : k - acc.length < c.length := Nat.lt_of_not_le hfit
        have hm := hacc.trans (Nat.min_eq_right (Nat.le_of_lt hlt))
        have hk : k < (acc ++ c).length := by rw [List.length_append]; exact (Nat.sub_lt_iff_lt_add' h).mp hlt
        rw [runSink_cons_short _ _ _ _ (hm ▸ hlt), hm, if_pos (by rw [List.length_append]; exact Nat.lt_add_right _ hk),
          List.take_append_of_le_length (Nat.le_of_lt hk), List.take_append, List.take_of_length_le h]

/-- **A failing flush is reported wherever the structure starts**: whatever the sink had accepted before (`acc`: the
    structure need not be the first thing on the stream — `serialize_on_field_write` at any position), if the final
    `flush` fails the result is a write error. -/
theorem flush_fail_any_offset (sk : Sink) (cs : List B) (acc : B) (hfl : ∀ a, sk.flushOk a = false) :
    (runSink sk acc cs).2 = .writeError := by
  cases h : (runSink sk acc cs).2 with
  | writeError => rfl
  | ok n =>
    have := (runSink_ok sk cs acc n h).2.2
    rw [hfl] at this
    cases this

example : (runSink (budgetSink 100 true) [0, 0, 0] [[1, 2], [3]]).2 = .writeError := by decide

/-! ### The borrowed buffer of a slice reference

    `impl SerializeInner for &[T]` builds a `Vec` aliasing the slice and keeps it in a
    `ManuallyDrop`; the ownership ledger of that function on both outcomes of the inner writer. -/

inductive Ev where
  | alias (p : Nat)      -- Vec::from_raw_parts on the caller's buffer
  | inner (ok : Bool)    -- the vector serializer ran, with this outcome
  | free (p : Nat)       -- the allocator is asked to free the buffer
  deriving Repr, DecidableEq

/-- events of serializing `&[T]` whose buffer is `p` (the aliasing vector is never dropped) -/
def sliceSerEvents (p : Nat) (innerOk : Bool) : List Ev := [.alias p, .inner innerOk]

/-- On no path — success or failure of the writer — is the caller's buffer freed. -/
theorem slice_no_free (p : Nat) (innerOk : Bool) : Ev.free p ∉ sliceSerEvents p innerOk := by
  simp [sliceSerEvents]

/-- Non-vacuity: a budget of 3 bytes on the chunks `[1,2],[3,4,5]`. -/
example : runSink (budgetSink 3 false) [] [[1, 2], [3, 4, 5]] = ([1, 2, 3], .writeError) := by decide

end Eps.C13
