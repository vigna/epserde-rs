/-
  C08 — File loaders agree with ε-copy of the file bytes and own a sound region.

  Runtime facts the model cannot exhibit (named in the manifest): that `mmap` / the allocator
  deliver the bytes of the file at an address with the stated alignment, and thread interleavings
  (the loaded structure is immutable after construction; the model has no shared mutable state).
-/
import EpsModel.Loaders
import EpsModel.Props.C03
import EpsModel.Props.C07
namespace Eps.C08

/-- a file zero-filled up to the next multiple of `2^k` ends on a multiple, less than `2^k` further on -/
theorem padded_length (file : B) (k : Nat) (hk : k ≤ 63) :
    (file ++ zeros (pad file.length (2^k))).length % 2^k = 0 ∧
    (file ++ zeros (pad file.length (2^k))).length < file.length + 2^k := by
  rw [List.length_append, zeros_length]
  exact ⟨(C07.pad_spec file.length k hk).1, Nat.add_lt_add_left (C07.pad_spec file.length k hk).2.1 _⟩

/-- The region of the copying loaders is the file followed by zeros only, up to the next multiple
    of 64 (heap) resp. 16 (anonymous mapping): length, tail, minimality. -/
theorem region_mem (file : B) :
    regionOf .mem file = file ++ zeros (pad file.length 64) ∧
    (regionOf .mem file).length % 64 = 0 ∧ (regionOf .mem file).length < file.length + 64 :=
  ⟨rfl, padded_length file 6 (by decide)⟩
theorem region_mmap (file : B) :
    regionOf .mmap file = file ++ zeros (pad file.length 16) ∧
    (regionOf .mmap file).length % 16 = 0 ∧ (regionOf .mmap file).length < file.length + 16 :=
  ⟨rfl, padded_length file 4 (by decide)⟩
theorem region_map (file : B) : regionOf .map file = file := rfl

/-- **Zero extension is irrelevant, all loaders agree**: ε-copy deserialization of the region of
    any loader describes the value that was stored, consumes exactly the bytes of the file, and
    every borrowed part lies inside the file part of the region (so inside the region), on its unit —
    provided the region is placed on a multiple of every block unit, which the loaders guarantee for
    units up to 64 (heap: `A64`; mappings: page-aligned). -/
theorem loaders_agree (H : B → Nat) (hH : ∀ b, H b < 2^64) (T : Ty) (name : B) (v : Val) (l : Loader) (base : Nat)
    (hT : T.wf = true) (hv : T.wt v = true) (hname : validUtf8 name = true) (hlen : name.length < 2^63)
    (hb : ∀ b ∈ T.blocks v (T.header H name).length, base % b.unit = 0) :
    ∃ e, T.deEps H base (regionOf l (T.ser H name v)) = .ok (e, (T.ser H name v).length) ∧ e.erase = v ∧
      ∀ b ∈ e.borrows, (T.header H name).length ≤ b.off ∧ b.off + b.len ≤ (T.ser H name v).length ∧
        b.off + b.len ≤ (regionOf l (T.ser H name v)).length ∧ (base + b.off) % b.unit = 0 := by
  obtain ⟨rest, hr⟩ : ∃ rest, regionOf l (T.ser H name v) = T.ser H name v ++ rest := by
    cases l with
    | full | map => exact ⟨[], (List.append_nil _).symm⟩
    | mem | mmap => exact ⟨_, rfl⟩
  obtain ⟨e, he, her, hb'⟩ :=
    C03.deEps_ser_sound H hH T name v base rest hT hv hname hlen (C02.aligned_of_base_multiple base T hT v _ hb)
  rw [hr]
  refine ⟨e, he, her, fun b hbm => ?_⟩
  obtain ⟨_, h1, h2, h3⟩ := hb' b hbm
  exact ⟨h1, h2, Nat.le_trans h2 (by rw [List.length_append]; exact Nat.le_add_right _ _), h3⟩

/-- `load_full` is full-copy deserialization of the file. -/
theorem load_full_agrees (H : B → Nat) (hH : ∀ b, H b < 2^64) (T : Ty) (name : B) (v : Val)
    (hT : T.wf = true) (hv : T.wt v = true) (hname : validUtf8 name = true) (hlen : name.length < 2^63) :
    T.deFull H (regionOf .full (T.ser H name v)) = .ok (v, (T.ser H name v).length) :=
  C01.deFull_ser H hH T name v hT hv hname hlen

/-- The flag translation is injective on the 8 flag sets (and total: every set has an image). -/
theorem flags_injective : ∀ a b : Fin 8, mmapFlags a.val = mmapFlags b.val → a = b := by decide

end Eps.C08
