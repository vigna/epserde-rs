/-
  C15 — Variant tags map back to the variant written; foreign tags are rejected.
-/
import EpsModel.Lemmas.TopLevel
namespace Eps.C15

/-! ### Written tags map back (round trip of every variant, full-copy reader; the ε-copy
    counterpart is `C02.decEps_enc`, which covers every sum type as well) -/

/-- Every variant of every sum type (options, bounds, control-flow, derived enums of any arity),
    with any payload, is read back as the same variant with the same payload. -/
theorem tag_roundtrip (T : Ty) (i : Nat) (fs : List Val) (hT : T.wf = true) (hv : T.wt (.variant i fs) = true)
    (pos : Nat) (rest : B) :
    T.decFull .reader (T.enc (.variant i fs) pos ++ rest) pos
      = .ok (.variant i fs, rest, pos + (T.enc (.variant i fs) pos).length) :=
  Ty.framedFull .reader T hT _ hv pos rest (AlignedAll_reader _)

/-! ### Foreign one-byte tags (all 256 byte values are covered: `g` is any byte) -/

theorem option_foreign_full (m : Mode) (t : Ty) (g : UInt8) (hg : 2 ≤ g.toNat) (rest : B) (pos : Nat) :
    (Ty.option t).decFull m (g :: rest) pos = .err (.invalidTag g.toNat) := by
  obtain ⟨k, hk⟩ := Nat.exists_eq_add_of_le' hg
  unfold Ty.decFull; rw [readWord_byte, Res.bind_ok, hk]; rfl

theorem option_foreign_eps (base : Nat) (t : Ty) (g : UInt8) (hg : 2 ≤ g.toNat) (rest : B) (pos : Nat) :
    (Ty.option t).decEps base (g :: rest) pos = .err (.invalidTag g.toNat) := by
  obtain ⟨k, hk⟩ := Nat.exists_eq_add_of_le' hg
  unfold Ty.decEps; rw [readWord_byte, Res.bind_ok, hk]; rfl

theorem bound_foreign_full (m : Mode) (t : Ty) (g : UInt8) (hg : 3 ≤ g.toNat) (rest : B) (pos : Nat) :
    (Ty.bound t).decFull m (g :: rest) pos = .err (.invalidTag g.toNat) := by
  obtain ⟨k, hk⟩ := Nat.exists_eq_add_of_le' hg
  unfold Ty.decFull; rw [readWord_byte, Res.bind_ok, hk]; rfl

theorem bound_foreign_eps (base : Nat) (t : Ty) (g : UInt8) (hg : 3 ≤ g.toNat) (rest : B) (pos : Nat) :
    (Ty.bound t).decEps base (g :: rest) pos = .err (.invalidTag g.toNat) := by
  obtain ⟨k, hk⟩ := Nat.exists_eq_add_of_le' hg
  unfold Ty.decEps; rw [readWord_byte, Res.bind_ok, hk]; rfl

theorem controlFlow_foreign_full (m : Mode) (b c : Ty) (g : UInt8) (hg : 2 ≤ g.toNat) (rest : B) (pos : Nat) :
    (Ty.controlFlow b c).decFull m (g :: rest) pos = .err (.invalidTag g.toNat) := by
  obtain ⟨k, hk⟩ := Nat.exists_eq_add_of_le' hg
  unfold Ty.decFull; rw [readWord_byte, Res.bind_ok, hk]; rfl

theorem controlFlow_foreign_eps (base : Nat) (b c : Ty) (g : UInt8) (hg : 2 ≤ g.toNat) (rest : B) (pos : Nat) :
    (Ty.controlFlow b c).decEps base (g :: rest) pos = .err (.invalidTag g.toNat) := by
  obtain ⟨k, hk⟩ := Nat.exists_eq_add_of_le' hg
  unfold Ty.decEps; rw [readWord_byte, Res.bind_ok, hk]; rfl

/-- The tags the writer emits are exactly the complement of the foreign ones: 0/1 for options,
    0/1/2 for bounds, 0/1 for control-flow (so `w = r⁻¹`: no written tag is foreign, no foreign tag
    is written). -/
theorem written_tags (t b c : Ty) (v : Val) (pos : Nat) :
    (Ty.option t).enc (.variant 0 []) pos = [0] ∧
    ((Ty.option t).enc (.variant 1 [v]) pos).head? = some 1 ∧
    (Ty.bound t).enc (.variant 0 []) pos = [0] ∧
    ((Ty.bound t).enc (.variant 1 [v]) pos).head? = some 1 ∧
    ((Ty.bound t).enc (.variant 2 [v]) pos).head? = some 2 ∧
    ((Ty.controlFlow b c).enc (.variant 0 [v]) pos).head? = some 0 ∧
    ((Ty.controlFlow b c).enc (.variant 1 [v]) pos).head? = some 1 := by
  simp only [Ty.enc, List.head?_cons, and_self]

/-! ### Foreign pointer-width tags of derived enums -/

theorem variants_foreign_full (m : Mode) : ∀ (vs : Variants) (orig i : Nat) (d : B) (pos : Nat),
    vs.length ≤ i → vs.decFull m orig i d pos = .err (.invalidTag orig)
  | .nil, _, _, _, _, _ => by rw [Variants.decFull]
  | .cons _ _ r, orig, 0, _, _, h => by cases h
  | .cons _ _ r, orig, i+1, d, pos, h => by
      rw [Variants.decFull]; exact variants_foreign_full m r orig i d pos (Nat.le_of_succ_le_succ h)

theorem variants_foreign_eps (base : Nat) : ∀ (vs : Variants) (orig i : Nat) (d : B) (pos : Nat),
    vs.length ≤ i → vs.decEps base orig i d pos = .err (.invalidTag orig)
  | .nil, _, _, _, _, _ => by rw [Variants.decEps]
  | .cons _ _ r, orig, 0, _, _, h => by cases h
  | .cons _ _ r, orig, i+1, d, pos, h => by
      rw [Variants.decEps]; exact variants_foreign_eps base r orig i d pos (Nat.le_of_succ_le_succ h)

/-- A derived (deep-copy) enum with `n` variants rejects every tag word `w ≥ n` (any 64-bit
    value) with `InvalidTag(w)`, whatever follows, in full-copy mode … -/
theorem enum_foreign_full (m : Mode) (mt : AdtMeta) (vs : Variants) (w : Nat) (rest : B) (pos : Nat)
    (hz : mt.zero = false) (he : mt.isEnum = true) (hw : w < 2^64) (hf : vs.length ≤ w) :
    (Ty.adt mt vs).decFull m (leBytes 8 w ++ rest) pos = .err (.invalidTag w) := by
  rw [Ty.decFull_adt_enum m mt vs _ pos hz he, readWord_leBytes 8 w rest pos (by omega)]
  simp only [Res.bind_ok]
  exact variants_foreign_full m vs w w rest (pos + 8) hf

/-- … and in ε-copy mode. -/
theorem enum_foreign_eps (base : Nat) (mt : AdtMeta) (vs : Variants) (w : Nat) (rest : B) (pos : Nat)
    (hz : mt.zero = false) (he : mt.isEnum = true) (hw : w < 2^64) (hf : vs.length ≤ w) :
    (Ty.adt mt vs).decEps base (leBytes 8 w ++ rest) pos = .err (.invalidTag w) := by
  rw [Ty.decEps_adt_enum base mt vs _ pos hz he, readWord_leBytes 8 w rest pos (by omega)]
  simp only [Res.bind_ok]
  exact variants_foreign_eps base vs w w rest (pos + 8) hf

/-- The enum writer emits the variant index as the tag word, and indices of well-typed values are
    below the number of variants: written tags are never foreign. -/
theorem enum_written_tag (mt : AdtMeta) (vs : Variants) (i : Nat) (fs : List Val) (pos : Nat)
    (hz : mt.zero = false) (hv : (Ty.adt mt vs).wt (.variant i fs) = true) :
    (Ty.adt mt vs).enc (.variant i fs) pos = leBytes 8 i ++ vs.enc i fs (pos + 8) ∧ i < vs.length := by
  refine ⟨Ty.enc_adt_enum mt vs i fs pos hz, ?_⟩
  simp only [Ty.wt, Bool.and_eq_true] at hv
  exact Variants.wt_lt vs i fs hv.2

/-! ### A foreign tag in any item of a sequence of sums

    The loop `for _ in 0..n { res.push(read()?) }` stops at the first item that is refused: a foreign
    tag in an item that is *not the last one* is reported exactly like one in the last item. -/

/-- **Arrays of deep-copy items**: after any number `vs.length < n` of well-formed items, an item that the item
    reader refuses with `e` makes the whole array refused with `e` (full-copy reader). -/
theorem array_item_error_full (t : Ty) (n : Nat) (hz : t.isZC = false) (ht : t.wf = true)
    (vs : List Val) (hwt : ∀ v ∈ vs, t.wt v = true) (hlen : vs.length < n) (pos : Nat) (rest : B) (e : Err)
    (herr : t.decFull .reader rest (pos + (Ty.encList t vs pos).length) = .err e) :
    (Ty.array t n).decFull .reader (Ty.encList t vs pos ++ rest) pos = .err e := by
  have hok := Ty.framedFullList .reader t ht vs hwt pos rest (AlignedAll_reader _)
  have := Eps.decMany_err_after (t.decFull .reader) e vs n hlen _ pos _ _ hok herr
  unfold Ty.decFull; simp only [hz, Bool.false_eq_true, if_false]
  rw [this]; rfl

/-- The same for the ε-copy reader, on a buffer whose base makes the items already read well placed. -/
theorem array_item_error_eps (base : Nat) (t : Ty) (n : Nat) (hz : t.isZC = false) (ht : t.wf = true)
    (vs : List Val) (hwt : ∀ v ∈ vs, t.wt v = true) (hlen : vs.length < n) (pos : Nat) (rest : B) (e : Err)
    (ha : AlignedAll (.slice base) (Ty.blocksList t vs pos))
    (herr : t.decEps base rest (pos + (Ty.encList t vs pos).length) = .err e) :
    (Ty.array t n).decEps base (Ty.encList t vs pos ++ rest) pos = .err e := by
  obtain ⟨es, hok, her, _⟩ := Ty.framedEpsList base t ht vs hwt pos rest ha
  have hl : es.length = vs.length := by rw [← eraseList_length es, her]
  rw [← hl] at hok hlen
  have := Eps.decMany_err_after (t.decEps base) e es n hlen _ pos _ _ hok herr
  unfold Ty.decEps; simp only [hz, Bool.false_eq_true, if_false]
  rw [this]; rfl

/-- An array of options: a foreign tag byte in item number `vs.length` (any item, not only the last). -/
theorem array_option_foreign_full (t : Ty) (n : Nat) (ht : (Ty.option t).wf = true)
    (vs : List Val) (hwt : ∀ v ∈ vs, (Ty.option t).wt v = true) (hlen : vs.length < n)
    (g : UInt8) (hg : 2 ≤ g.toNat) (pos : Nat) (rest : B) :
    (Ty.array (.option t) n).decFull .reader (Ty.encList (.option t) vs pos ++ g :: rest) pos = .err (.invalidTag g.toNat) :=
  array_item_error_full (.option t) n rfl ht vs hwt hlen pos (g :: rest) _ (option_foreign_full .reader t g hg rest _)

theorem array_option_foreign_eps (base : Nat) (t : Ty) (n : Nat) (ht : (Ty.option t).wf = true)
    (vs : List Val) (hwt : ∀ v ∈ vs, (Ty.option t).wt v = true) (hlen : vs.length < n)
    (g : UInt8) (hg : 2 ≤ g.toNat) (pos : Nat) (rest : B)
    (ha : AlignedAll (.slice base) (Ty.blocksList (.option t) vs pos)) :
    (Ty.array (.option t) n).decEps base (Ty.encList (.option t) vs pos ++ g :: rest) pos = .err (.invalidTag g.toNat) :=
  array_item_error_eps base (.option t) n rfl ht vs hwt hlen pos (g :: rest) _ ha (option_foreign_eps base t g hg rest _)

/-- Non-vacuity: `[Option<u8>; 3]`, two well-formed items (`None`, `Some(7)`), then the tag byte 2. -/
example :
    (Ty.array (.option (.prim (.int .u8))) 3).decFull .reader
      (Ty.encList (.option (.prim (.int .u8))) [.variant 0 [], .variant 1 [.bits 7]] 0 ++ [2, 9]) 0 = .err (.invalidTag 2) :=
  array_option_foreign_full (.prim (.int .u8)) 3 (by decide) [.variant 0 [], .variant 1 [.bits 7]]
    (by intro v hv; simp only [List.mem_cons, List.not_mem_nil, or_false] at hv; rcases hv with rfl | rfl <;> simp [Ty.wt, Prim.wt, IntK.size])
    (by decide) 2 (by decide) 0 [9]

/-- Non-vacuity: a two-variant enum and a foreign tag. -/
example : (Variants.cons [65] .nil (.cons [66] (.cons [48] false (.prim (.int .u8)) .nil) .nil)).length ≤ 2 := by
  simp [Variants.length]

end Eps.C15
