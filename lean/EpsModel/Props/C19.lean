/-
  C19 — The aligned cursor behaves like the standard in-memory cursor.

  Refinement, unbounded in the history: every operation of `AlignedCursor` returns what
  `Cursor<Vec<u8>>` returns and leaves a state related by `R` (same position, same length, same
  contents, zeros beyond the length, storage a whole number of alignment units that covers the
  length). Positions and sizes below 2^62 are the explicit guard for the `usize::MAX` corners,
  where the two differ by design (`u64` versus `usize` positions).
-/
import EpsModel.Lemmas.CursorL
namespace Eps.C19
open Eps.Cur

/-- The refinement relation. -/
structure R (al : Nat) (a : ACur) (s : SCur) : Prop where
  pos : a.pos = s.pos
  len : a.len = s.buf.length
  data : ∀ i, a.get i = (s.buf[i]?).getD 0
  cap : a.len ≤ a.cap
  units : al ∣ a.cap

/-- The guard: positions and lengths far from `usize::MAX`. -/
def Guard (s : SCur) : Prop := s.pos < 2^62 ∧ s.buf.length < 2^62

-- The operands an operation may carry under the guard: lengths and offsets below 2^62, so that no position
-- computed from a guarded state comes near `usize::MAX`.
def SmallOp : Op → Prop
  | .write b => b.length < 2^62
  | .read _ => True
  | .seek (.start n) => n < 2^62
  | .seek (.end i) => -(2^62 : Int) < i ∧ i < 2^62
  | .seek (.current i) => -(2^62 : Int) < i ∧ i < 2^62
  | .setPos n => n < 2^62
  | .flush => True
  | .readToEnd => True
  | .readExact _ => True
  | .writeAll b => b.length < 2^62
  | .writeV bufs => bufs.flatten.length < 2^62
  | .readV _ => True

/-- A cursor created by `new()` is related to the empty standard cursor … -/
theorem R_init (al : Nat) : R al ACur.init SCur.init :=
  ⟨rfl, rfl, fun _ => rfl, Nat.le_refl _, Nat.dvd_zero al⟩

/-- … and so is a cursor created by `with_capacity(c)`, for every `c` (also `default()`, which is `new()`). -/
theorem R_withCapacity (al c : Nat) : R al (ACur.withCapacity al c) SCur.init :=
  ⟨rfl, rfl, fun _ => rfl, Nat.zero_le _, Nat.dvd_mul_left al _⟩

/-- What a related state means for the observers: `as_bytes()`, `len()`, `position()`. -/
theorem observers (al : Nat) (a : ACur) (s : SCur) (h : R al a s) :
    a.asBytes = s.buf ∧ a.len = s.buf.length ∧ a.pos = s.pos := by
  refine ⟨List.ext_getElem (a.asBytes_length.trans h.len) fun i _ hi => ?_, h.len, h.pos⟩
  simp only [ACur.asBytes, List.getElem_map, List.getElem_range]
  rw [h.data, List.getElem?_eq_getElem hi]; rfl

theorem R.setPos {al : Nat} {a : ACur} {s : SCur} (h : R al a s) (p : Nat) :
    R al { a with pos := p } { s with pos := p } :=
  ⟨rfl, h.len, h.data, h.cap, h.units⟩

theorem Guard.fits {s : SCur} (hg : Guard s) {n : Nat} (hn : n < 2^62) : s.pos + n ≤ Cur.isizeMax := by
  have := hg.1; unfold Cur.isizeMax; omega

theorem R.write {al : Nat} {a : ACur} {s : SCur} (hal : 0 < al) (hR : R al a s) (b : B)
    (h : s.pos + b.length ≤ Cur.isizeMax) : R al (a.write al b).1 (s.write b).1 := by
  obtain ⟨hpos, hlen, hdata, hcap, hunits⟩ := hR
  rw [ACur.write_eq al a b (fits_usize (hpos ▸ h)), if_neg (Nat.not_lt.mpr (hpos ▸ h))]
  refine ⟨?_, ?_, fun i => ?_, ?_, ?_⟩
  · rw [SCur.write_pos s b h, ← hpos]
  · rw [SCur.write_length s b h, ← hpos, ← hlen]
  · rw [SCur.write_getD s b h, ← hpos, ← hdata]
  · simp only []
    split
    · have hge := ceilDiv_mul_ge (a.pos + b.length) al hal
      exact Nat.max_le.mpr ⟨Nat.le_trans hcap (Nat.le_trans (Nat.le_of_lt ‹_›) hge), hge⟩
    · exact Nat.max_le.mpr ⟨hcap, Nat.le_of_not_lt ‹_›⟩
  · simp only []
    split
    · exact Nat.dvd_mul_left al _
    · exact hunits

/-- `write`: same result, related states. -/
theorem write_refines (al : Nat) (hal : 0 < al) (a : ACur) (s : SCur) (b : B)
    (hR : R al a s) (hg : Guard s) (ho : b.length < 2^62) :
    (a.write al b).2 = (s.write b).2 ∧ (a.write al b).2 = .wrote b.length ∧ R al (a.write al b).1 (s.write b).1 := by
  have ha := ACur.write_ok al a b (hR.pos ▸ hg.fits ho)
  exact ⟨by rw [ha, SCur.write_ok s b (hg.fits ho)], by rw [ha], hR.write hal b (hg.fits ho)⟩

/-- the loop of `write_vectored`: same count, related states, as long as the end stays at or below `isize::MAX` -/
theorem writeMany_refines (al : Nat) (hal : 0 < al) : ∀ (bufs : List B) (a : ACur) (s : SCur) (acc : Nat),
    R al a s → s.pos + bufs.flatten.length ≤ Cur.isizeMax →
    (ACur.writeMany al a bufs acc).2 = (SCur.writeMany s bufs acc).2
      ∧ R al (ACur.writeMany al a bufs acc).1 (SCur.writeMany s bufs acc).1
  | [], a, s, acc, hR, _ => ⟨rfl, hR⟩
  | b :: bs, a, s, acc, hR, hle => by
      rw [List.flatten_cons, List.length_append, ← Nat.add_assoc] at hle
      have hb : s.pos + b.length ≤ Cur.isizeMax := Nat.le_trans (Nat.le_add_right _ _) hle
      rw [ACur.writeMany_cons al a b (hR.pos ▸ hb), SCur.writeMany_cons s b hb]
      exact writeMany_refines al hal bs _ _ _ (hR.write hal b hb) (by rw [SCur.write_pos s b hb]; exact hle)

theorem R.read {al : Nat} {a : ACur} {s : SCur} (hR : R al a s) (n : Nat) :
    ∃ p b, a.read n = ({ a with pos := p }, .bytes b) ∧ s.read n = ({ s with pos := p }, .bytes b) := by
  obtain ⟨hb, hl, hp⟩ := observers al a s hR
  exact ⟨_, _, a.read_eq n, by rw [SCur.read_eq, ← hp, ← hl, ← hb]⟩

theorem read_refines (al : Nat) (a : ACur) (s : SCur) (n : Nat) (hR : R al a s) :
    (a.read n).2 = (s.read n).2 ∧ R al (a.read n).1 (s.read n).1 := by
  obtain ⟨p, b, ha, hs⟩ := hR.read n
  rw [ha, hs]
  exact ⟨rfl, hR.setPos p⟩

/-- the loop of `read_vectored`: same bytes, related states -/
theorem readMany_refines (al : Nat) : ∀ (ns : List Nat) (a : ACur) (s : SCur) (acc : B),
    R al a s →
    (ACur.readMany a ns acc).2 = (SCur.readMany s ns acc).2 ∧ R al (ACur.readMany a ns acc).1 (SCur.readMany s ns acc).1
  | [], a, s, acc, hR => ⟨rfl, hR⟩
  | n :: ns, a, s, acc, hR => by
      obtain ⟨p, b, ha, hs⟩ := hR.read n
      rw [ACur.readMany, SCur.readMany, ha, hs]
      simp only []
      split
      · exact ⟨rfl, hR.setPos p⟩
      · exact readMany_refines al ns _ _ _ (hR.setPos p)

/-- **One step**: same output, related states. -/
theorem step_refines (al : Nat) (hal : 0 < al) (a : ACur) (s : SCur) (op : Op)
    (hR : R al a s) (hg : Guard s) (ho : SmallOp op) :
    (a.step al op).2 = (s.step op).2 ∧ R al (a.step al op).1 (s.step op).1 := by
  have hpos := hR.pos
  have hlen := hR.len
  cases op with
  | write b => have h := write_refines al hal a s b hR hg ho; exact ⟨h.1, h.2.2⟩
  | read n => exact read_refines al a s n hR
  | seek sk =>
    cases sk with
    | start n =>
      have hn : ¬ (n > usizeMax) := Nat.not_lt.mpr (Nat.le_trans (Nat.le_of_lt ho) (by decide))
      have ha : a.step al (.seek (.start n)) = ({ a with pos := n }, .pos n) := if_neg hn
      rw [ha]
      exact ⟨rfl, hR.setPos n⟩
    | «end» i =>
      simp only [ACur.step, SCur.step, ← hlen]
      cases addSigned a.len i with
      | none => exact ⟨rfl, hR⟩
      | some m => exact ⟨rfl, hR.setPos _⟩
    | current i =>
      simp only [ACur.step, SCur.step, ← hpos]
      cases addSigned a.pos i with
      | none => exact ⟨rfl, hR⟩
      | some m => exact ⟨rfl, hR.setPos _⟩
  | setPos n => exact ⟨rfl, hR.setPos _⟩
  | flush => exact ⟨rfl, hR⟩
  | readToEnd =>
    simp only [ACur.step, SCur.step, ← hpos, ← hlen]
    exact read_refines al a s _ hR
  | readExact n =>
    simp only [ACur.step, SCur.step, ← hpos, ← hlen]
    split
    · exact read_refines al a s n hR
    · exact ⟨rfl, hR.setPos _⟩
  | writeAll b =>
    have h := hg.fits ho
    simp only [ACur.step, SCur.step]
    rw [ACur.write_ok al a b (hpos ▸ h), SCur.write_ok s b h]
    exact ⟨rfl, hR.write hal b h⟩
  | writeV bufs =>
    have h : s.pos + ([] : B).length ≤ Cur.isizeMax := hg.fits (by decide)
    simp only [ACur.step, SCur.step]
    rw [ACur.write_ok al a [] (hpos ▸ h), SCur.write_ok s [] h]
    exact writeMany_refines al hal bufs _ _ 0 (hR.write hal [] h) (by rw [SCur.write_pos s [] h]; exact hg.fits ho)
  | readV ns => exact readMany_refines al ns a s [] hR

/-- the guard holds at every state the specification goes through -/
def GuardAlong (s : SCur) : List Op → Prop
  | [] => True
  | op :: ops => Guard s ∧ SmallOp op ∧ GuardAlong (s.step op).1 ops

/-- **Every history**: same outputs, related final states — by induction on the history, no bound
    on its length. -/
theorem run_refines (al : Nat) (hal : 0 < al) (ops : List Op) : ∀ (a : ACur) (s : SCur),
    R al a s → GuardAlong s ops →
    (ACur.run al a ops).2 = (SCur.run s ops).2 ∧ R al (ACur.run al a ops).1 (SCur.run s ops).1 := by
  induction ops with
  | nil => intro a s hR _; exact ⟨rfl, hR⟩
  | cons op ops ih =>
    intro a s hR hg
    obtain ⟨hg1, hs, hg2⟩ := hg
    obtain ⟨ho, hR'⟩ := step_refines al hal a s op hR hg1 hs
    obtain ⟨hos, hR''⟩ := ih _ _ hR' hg2
    simp only [ACur.run, SCur.run]
    exact ⟨by rw [ho, hos], hR''⟩

/-- From the empty cursors: the complete statement. -/
theorem cursor_refines (al : Nat) (hal : 0 < al) (ops : List Op) (hg : GuardAlong SCur.init ops) :
    (ACur.run al ACur.init ops).2 = (SCur.run SCur.init ops).2 ∧
    (ACur.run al ACur.init ops).1.asBytes = (SCur.run SCur.init ops).1.buf ∧
    (ACur.run al ACur.init ops).1.len = (SCur.run SCur.init ops).1.buf.length ∧
    (ACur.run al ACur.init ops).1.pos = (SCur.run SCur.init ops).1.pos := by
  obtain ⟨h1, h2⟩ := run_refines al hal ops _ _ (R_init al) hg
  exact ⟨h1, observers al _ _ h2⟩

/-- The same from a cursor created with any capacity. -/
theorem cursor_refines_withCapacity (al c : Nat) (hal : 0 < al) (ops : List Op) (hg : GuardAlong SCur.init ops) :
    (ACur.run al (ACur.withCapacity al c) ops).2 = (SCur.run SCur.init ops).2 ∧
    (ACur.run al (ACur.withCapacity al c) ops).1.asBytes = (SCur.run SCur.init ops).1.buf ∧
    (ACur.run al (ACur.withCapacity al c) ops).1.len = (SCur.run SCur.init ops).1.buf.length ∧
    (ACur.run al (ACur.withCapacity al c) ops).1.pos = (SCur.run SCur.init ops).1.pos := by
  obtain ⟨h1, h2⟩ := run_refines al hal ops _ _ (R_withCapacity al c) hg
  exact ⟨h1, observers al _ _ h2⟩

theorem guard_gap (p : Nat) (hp : p < 2^62) : Guard { buf := [], pos := p } := ⟨hp, Nat.two_pow_pos 62⟩

theorem guardAlong_setPos (p : Nat) (hp : p < 2^62) (op : Op) (ho : SmallOp op) : GuardAlong SCur.init [.setPos p, op] :=
  ⟨guard_gap 0 (Nat.two_pow_pos 62), hp, guard_gap p hp, ho, trivial⟩

theorem SCur.write_after_gap (p : Nat) (b : B) (h : p + b.length ≤ Cur.isizeMax) :
    (SCur.write { buf := [], pos := p } b).1.buf = zeros p ++ b := by
  have hz : SCur.padded { buf := [], pos := p } = zeros p := rfl
  rw [SCur.write_eq _ b h, hz, List.take_of_length_le (Nat.le_of_eq (zeros_length p)),
    List.drop_of_length_le (by rw [zeros_length]; exact Nat.le_add_right _ _), List.append_nil]

/-- Writing past the end zero-fills the gap (the case the property singles out), as a direct
    consequence: after `set_position(p)` and a write of `b` on an empty cursor the contents are
    `p` zeros followed by `b`. -/
theorem gap_zero_filled (al : Nat) (hal : 0 < al) (p : Nat) (b : B) (hp : p < 2^62) (hb : b.length < 2^62) :
    (ACur.run al ACur.init [.setPos p, .write b]).1.asBytes = zeros p ++ b := by
  rw [(cursor_refines al hal _ (guardAlong_setPos p hp (.write b) hb)).2.1]
  exact SCur.write_after_gap p b ((guard_gap p hp).fits hb)

/-- The two corners in which the provided methods of `Read` / `Write` would differ from the standard cursor (and did,
    before the repair `5b3f044` of the crate): a failed `read_exact` moves the position to the end of the data even from beyond it, and
    `write_all` of nothing still fills the gap up to the position. -/
theorem readExact_eof_moves_to_end (al : Nat) (a : ACur) (n : Nat) (h : a.len - a.pos < n) :
    a.step al (.readExact n) = ({ a with pos := a.len }, .eof) := by
  rw [ACur.step, if_neg (Nat.not_le_of_lt h)]

theorem writeAll_empty_fills_gap (al : Nat) (hal : 0 < al) (p : Nat) (hp : p < 2^62) :
    (ACur.run al ACur.init [.setPos p, .writeAll []]).1.asBytes = zeros p := by
  have h : p + ([] : B).length ≤ Cur.isizeMax := (guard_gap p hp).fits (Nat.two_pow_pos 62)
  rw [(cursor_refines al hal _ (guardAlong_setPos p hp (.writeAll []) (Nat.two_pow_pos 62))).2.1]
  simp only [SCur.run, SCur.step, SCur.init]
  rw [SCur.write_ok _ _ h]
  exact (SCur.write_after_gap p [] h).trans (List.append_nil _)

/-! ### `write_vectored` of the standard cursor is one `write` of the concatenation

    `vec_write_vectored` pads the vector up to the position once and copies the buffers one behind the other; the
    model states it as one `write` per buffer (`SCur.writeMany`). The two descriptions are the same function. -/

theorem SCur.write_append (s : SCur) (a b : B) (h : s.pos + a.length + b.length ≤ Cur.isizeMax) :
    ((s.write a).1.write b).1 = (s.write (a ++ b)).1 := by
  have ha : s.pos + a.length ≤ Cur.isizeMax := Nat.le_trans (Nat.le_add_right _ _) h
  rw [SCur.write_eq (s.write a).1 b (by rw [SCur.write_pos s a ha]; exact h), SCur.padded_of_inside _ (SCur.write_inside s a ha),
    SCur.write_eq s a ha, SCur.write_eq s (a ++ b) (by rw [List.length_append, ← Nat.add_assoc]; exact h)]
  simp only []
  rw [splice_splice _ a b _ s.pos_le_padded, List.length_append, Nat.add_assoc]

theorem SCur.write_nil_inside (s : SCur) (hp : s.pos ≤ s.buf.length) (h : s.pos ≤ Cur.isizeMax) : (s.write []).1 = s := by
  rw [SCur.write_eq s [] h, s.padded_of_inside hp]
  simp only [List.length_nil, Nat.add_zero, List.append_nil, List.take_append_drop]

theorem SCur.writeMany_eq_flatten : ∀ (bufs : List B) (s : SCur) (acc : Nat),
    s.pos ≤ s.buf.length → s.pos + bufs.flatten.length ≤ Cur.isizeMax →
    SCur.writeMany s bufs acc = ((s.write bufs.flatten).1, .wrote (acc + bufs.flatten.length))
  | [], s, acc, hp, h => by
      rw [List.flatten_nil, SCur.write_nil_inside s hp h]; rfl
  | b :: bs, s, acc, hp, h => by
      rw [List.flatten_cons, List.length_append, ← Nat.add_assoc] at h ⊢
      have hb : s.pos + b.length ≤ Cur.isizeMax := Nat.le_trans (Nat.le_add_right _ _) h
      rw [SCur.writeMany_cons s b hb, SCur.writeMany_eq_flatten bs _ _ (SCur.write_inside s b hb)
        (by rw [SCur.write_pos s b hb]; exact h), SCur.write_append s b bs.flatten h]

/-- **`write_vectored` of the standard cursor, as the library implements it**: the vector is padded up to the position
    and the buffers are copied one behind the other — one `write` of the concatenation, returning the total. -/
theorem SCur.writeV_is_write_of_concatenation (s : SCur) (bufs : List B) (h : s.pos + bufs.flatten.length ≤ Cur.isizeMax) :
    s.step (.writeV bufs) = ((s.write bufs.flatten).1, .wrote bufs.flatten.length) := by
  have h0 : s.pos + ([] : B).length ≤ Cur.isizeMax := Nat.le_trans (Nat.le_add_right _ _) h
  rw [SCur.step, SCur.write_ok s [] h0]
  simp only []
  rw [SCur.writeMany_eq_flatten bufs _ _ (SCur.write_inside s [] h0) (by rw [SCur.write_pos s [] h0]; exact h),
    SCur.write_append s [] bufs.flatten (by rw [List.length_nil]; exact h), List.nil_append, List.length_nil, Nat.zero_add]

example : (SCur.step { buf := [1, 2], pos := 4 } (.writeV [[7], [], [8, 9]])).2 = .wrote 3 ∧
    (SCur.step { buf := [1, 2], pos := 4 } (.writeV [[7], [], [8, 9]])).1.buf = [1, 2, 0, 0, 7, 8, 9] := by decide

/-- **Beyond `isize::MAX`**: a write that would end above `isize::MAX` bytes panics in both cursors ("capacity
    overflow") and leaves both exactly as they were — nothing is updated before the storage has grown. -/
theorem write_beyond_isize_max (al : Nat) (a : ACur) (s : SCur) (b : B) (hR : R al a s)
    (hbig : Cur.isizeMax < s.pos + b.length) (hfit : s.pos + b.length ≤ usizeMax) :
    a.write al b = (a, .panic) ∧ s.write b = (s, .panic) :=
  ⟨(ACur.write_eq al a b (hR.pos ▸ hfit)).trans (if_pos (hR.pos ▸ hbig)), if_pos hbig⟩

example : (ACur.run 16 ACur.init [.write [1, 2, 3], .setPos 9, .readExact 1, .writeAll [], .setPos 1, .readToEnd]).2 =
    [.wrote 3, .unit, .eof, .unit, .unit, .bytes [2, 3]] := by decide

end Eps.C19
