/-
  C16 — Slices and exact-size iterators serialize exactly like the vector.
-/
import EpsModel.Iter
import EpsModel.Lemmas.Vecify
import EpsModel.Lemmas.Feeds
namespace Eps.C16

/-- The item-by-item iterator writer, when the iterator yields as many items as it announced,
    writes exactly the bytes of the vector writer and succeeds. -/
theorem iter_writer_eq_vec (t : Ty) (vs : List Val) (pos : Nat) (hz : t.isZC = true) :
    encIter t vs vs.length pos = ((Ty.vec t).enc (.seq vs) pos, .ok ()) := by
  simp [encIter, Ty.enc, Ty.encSeq, hz]

/-- A lying iterator: the result is the length-mismatch error carrying both counts, never success
    — for every announced / actual pair. -/
theorem iter_mismatch (t : Ty) (vs : List Val) (a pos : Nat) (h : a ≠ vs.length) :
    (encIter t vs a pos).2 = .error (.lengthMismatch vs.length a) :=
  if_pos (bne_iff_ne.mpr (Ne.symm h))
theorem iter_ok_iff (t : Ty) (vs : List Val) (a pos : Nat) :
    (encIter t vs a pos).2 = .ok () ↔ a = vs.length := by
  refine ⟨fun hok => Decidable.byContradiction fun hne => ?_, fun e => if_neg (by simp [e])⟩
  rw [iter_mismatch t vs a pos hne] at hok
  cases hok

/-! ### Nested anywhere (in particular in type-parameter fields of derived structures):
    replacing every slice reference / iterator wrapper by the vector changes neither the bytes nor
    the hash feeds -/

theorem Ty.isZC_vecify : ∀ t : Ty, t.vecify.isZC = t.isZC := Eps.Ty.isZC_vecify
theorem Fields.allZC_vecify : ∀ f : Fields, f.vecify.allZC = f.allZC := Eps.Fields.allZC_vecify
theorem Variants.allZC_vecify : ∀ v : Variants, v.vecify.allZC = v.allZC := Eps.Variants.allZC_vecify

theorem Fields.namesFeed_vecify : ∀ f : Fields, f.vecify.namesFeed = f.namesFeed
  | .nil => rfl
  | .cons _ _ _ r => by simp only [Fields.vecify, Fields.namesFeed, Fields.namesFeed_vecify r]

mutual
theorem Ty.typeFeed_vecify : ∀ t : Ty, t.vecify.typeFeed = t.typeFeed
  | .prim _ | .string | .boxStr | .rangeFull => rfl
  | .phantom t | .vec t | .sliceRef t | .serIter t | .boxSlice t | .option t | .bound t | .array t _ | .range _ t => by
      simp only [Ty.vecify, Ty.typeFeed, Ty.typeFeed_vecify t]
  | .controlFlow b c => by simp only [Ty.vecify, Ty.typeFeed, Ty.typeFeed_vecify b, Ty.typeFeed_vecify c]
  | .tuple t n => by simp only [Ty.vecify, Ty.typeFeed, Ty.typeFeedRep_congr (Ty.typeFeed_vecify t)]
  | .adt m vs => by
      simp only [Ty.vecify, Ty.typeFeed_adt, adtBody, Variants.typeFeed_vecify vs]
      match vs with
      | .cons _ f .nil => simp only [Variants.vecify, Fields.namesFeed_vecify f, Fields.typesFeed_vecify f]
      | .nil | .cons _ _ (.cons _ _ _) => simp only [Variants.vecify]
theorem Fields.typesFeed_vecify : ∀ f : Fields, f.vecify.typesFeed = f.typesFeed
  | .nil => rfl
  | .cons _ _ t r => by simp only [Fields.vecify, Fields.typesFeed, Ty.typeFeed_vecify t, Fields.typesFeed_vecify r]
theorem Fields.interFeed_vecify : ∀ f : Fields, f.vecify.interFeed = f.interFeed
  | .nil => rfl
  | .cons _ _ t r => by simp only [Fields.vecify, Fields.interFeed, Ty.typeFeed_vecify t, Fields.interFeed_vecify r]
theorem Variants.typeFeed_vecify : ∀ v : Variants, v.vecify.typeFeed = v.typeFeed
  | .nil => rfl
  | .cons _ fs r => by simp only [Variants.vecify, Variants.typeFeed, Fields.interFeed_vecify fs, Variants.typeFeed_vecify r]
end

theorem Ty.typeFeedRep_vecify : ∀ (t : Ty) (n : Nat), Ty.typeFeedRep t.vecify n = Ty.typeFeedRep t n :=
  fun t => Ty.typeFeedRep_congr (Ty.typeFeed_vecify t)

/-- The type hash of a structure holding slices / iterators anywhere is the type hash of the
    structure holding vectors. -/
theorem typeHash_vecify (H : B → Nat) (T : Ty) : T.vecify.typeHash H = T.typeHash H := by
  unfold Ty.typeHash; rw [Ty.typeFeed_vecify]

/-- The alignment hash likewise. -/
theorem alignHash_vecify (H : B → Nat) (T : Ty) : T.vecify.alignHash H = T.alignHash H := by
  unfold Ty.alignHash; rw [Eps.Ty.alignFeed_vecify]

/-- **Bytes through arbitrary nesting**: at any stream position, a value is written at a type holding
    slice references / iterator wrappers anywhere — under vectors, options, arrays, in fields of
    derived structures and enums, at any depth — exactly as at the type holding vectors. -/
theorem enc_vecify (T : Ty) (v : Val) (pos : Nat) : T.vecify.enc v pos = T.enc v pos :=
  Eps.Ty.enc_vecify T v pos

/-- **The whole stream**, header included: same hash words, same name, same bytes. -/
theorem ser_vecify (H : B → Nat) (T : Ty) (name : B) (v : Val) : T.vecify.ser H name v = T.ser H name v := by
  simp only [Ty.ser, Ty.header, typeHash_vecify, alignHash_vecify, Eps.Ty.enc_vecify]

/-- Two types with the same `vecify` — the same type up to which sequence wrapper is written where —
    produce the same stream. -/
theorem ser_eq_of_vecify_eq {T U : Ty} (h : T.vecify = U.vecify) (H : B → Nat) (name : B) (v : Val) :
    T.ser H name v = U.ser H name v := by
  rw [← ser_vecify H T, h, ser_vecify]

/-- The whole stream — header (magic, versions, both hash words, type name of the vector) and
    body — of a slice reference is that of the vector. -/
theorem slice_ser_eq_vec (H : B → Nat) (t : Ty) (name : B) (v : Val) :
    (Ty.sliceRef t).ser H name v = (Ty.vec t).ser H name v :=
  ser_eq_of_vecify_eq (by simp only [Ty.vecify]) H name v
theorem iter_ser_eq_vec (H : B → Nat) (t : Ty) (name : B) (v : Val) :
    (Ty.serIter t).ser H name v = (Ty.vec t).ser H name v :=
  ser_eq_of_vecify_eq (by simp only [Ty.vecify]) H name v

/-- Non-vacuity: the wrapper `Wrap<&[u32]>` becomes `Wrap<Vec<u32>>`. -/
example :
    (Ty.adt ⟨[87], false, false, false, [], 1, []⟩
      (.cons [87] (.cons [97] true (.sliceRef (.prim (.int .u32))) (.cons [98] false (.prim (.int .u16)) .nil)) .nil)).vecify
    = Ty.adt ⟨[87], false, false, false, [], 1, []⟩
      (.cons [87] (.cons [97] true (.vec (.prim (.int .u32))) (.cons [98] false (.prim (.int .u16)) .nil)) .nil) := by
  simp [Ty.vecify, Variants.vecify, Fields.vecify]

end Eps.C16
