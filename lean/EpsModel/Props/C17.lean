/-
  C17 — A type wrongly declared zero-copy can never be serialized as raw memory.

  Decision logic stated outright, over every definition (`Def`), every instantiation and every
  type of the universe: (i) what the compile-time layer refuses; (ii) the run-time constant is
  sound — `IS_ZERO_COPY = true` implies plain old data, by structural induction, so the guard of
  `serialize_zero` lets only pointer-free memory through; (iii) a definition declared zero-copy that
  the compile-time layer accepts and the guard lets through has a C representation, only zero-copy
  fields and a pointer-free image; otherwise nothing of the value is written.
-/
import EpsModel.ZeroGuard
namespace Eps.C17

theorem compileOK_zero {d : Def} {ta : List Ty} {ca : List Nat} (hz : d.zero = true) (h : d.compileOK ta ca = true) :
    ([0x43] ∈ d.reprs ∧ d.deepAttr = false) ∧ (instVariants ta ca d.variants).allZC = true := by
  simpa [Def.compileOK, Def.attrsOk, hz] using h

/-- Declared zero-copy without `repr(C)`: refused by the macro. -/
theorem no_reprC_rejected (d : Def) (ta : List Ty) (ca : List Nat) (hz : d.zero = true) (hc : [0x43] ∉ d.reprs) :
    d.compileOK ta ca = false :=
  Bool.eq_false_iff.mpr fun h => hc (compileOK_zero hz h).1.1

/-- Declared both zero-copy and deep-copy: refused by the macro. -/
theorem both_attrs_rejected (d : Def) (ta : List Ty) (ca : List Nat) (hz : d.zero = true) (hd : d.deepAttr = true) :
    d.compileOK ta ca = false :=
  Bool.eq_false_iff.mpr fun h => Bool.false_ne_true ((compileOK_zero hz h).1.2.symm.trans hd)

/-- `t` is the type of some field -/
def hasField : Fields → Ty → Prop
  | .nil, _ => False
  | .cons _ _ u r, t => u = t ∨ hasField r t

/-- every field of every variant -/
def fieldOf : Variants → Ty → Prop
  | .nil, _ => False
  | .cons _ fs r, t => hasField fs t ∨ fieldOf r t

/-- A conjunction over the fields holds of each field. `all` is `Fields.allZC` or `Fields.allConst`: both have
    this clause by definition. -/
theorem all_field {p : Ty → Bool} {all : Fields → Bool} (hc : ∀ n e u r, all (.cons n e u r) = (p u && all r)) {t : Ty} :
    ∀ (fs : Fields), all fs = true → hasField fs t → p t = true
  | .nil, _, hm => hm.elim
  | .cons _ _ _ r, h, hm => by
    rw [hc, Bool.and_eq_true] at h
    rcases hm with rfl | hm
    · exact h.1
    · exact all_field hc r h.2 hm

/-- The same over the variants, for `Variants.allZC` and `Variants.allConst`. -/
theorem all_variants {p : Ty → Bool} {allF : Fields → Bool} {allV : Variants → Bool}
    (hf : ∀ n e u r, allF (.cons n e u r) = (p u && allF r)) (hv : ∀ n fs r, allV (.cons n fs r) = (allF fs && allV r)) {t : Ty} :
    ∀ (vs : Variants), allV vs = true → fieldOf vs t → p t = true
  | .nil, _, hm => hm.elim
  | .cons _ fs r, h, hm => by
    rw [hv, Bool.and_eq_true] at h
    rcases hm with hm | hm
    · exact all_field hf fs h.1 hm
    · exact all_variants hf hv r h.2 hm

theorem allZC_variants {t : Ty} (vs : Variants) : vs.allZC = true → fieldOf vs t → t.isZC = true :=
  all_variants (fun _ _ _ _ => rfl) (fun _ _ _ => rfl) vs

theorem allConst_variants {t : Ty} (vs : Variants) : vs.allConst = true → fieldOf vs t → t.zcConst = true :=
  all_variants (fun _ _ _ _ => rfl) (fun _ _ _ => rfl) vs

/-- Declared zero-copy with a field (of any variant) whose instantiated type is not `ZeroCopy` —
    a vector, a string, a boxed slice, an option, a deep structure, a type holding a reference …:
    refused at compile time by the `ZeroCopy` bound. -/
theorem non_zero_field_rejected (d : Def) (ta : List Ty) (ca : List Nat) (t : Ty) (hz : d.zero = true)
    (hf : fieldOf (instVariants ta ca d.variants) t) (ht : t.isZC = false) :
    d.compileOK ta ca = false := by
  refine Bool.eq_false_iff.mpr fun hc => ?_
  rw [allZC_variants _ (compileOK_zero hz hc).2 hf] at ht
  cases ht

/-- The types the property lists are not `ZeroCopy`, whatever they contain. -/
theorem heap_types_not_zero (t u : Ty) (m : AdtMeta) (vs : Variants) (hm : m.zero = false) :
    (Ty.vec t).isZC = false ∧ Ty.string.isZC = false ∧ Ty.boxStr.isZC = false ∧ (Ty.boxSlice t).isZC = false ∧
    (Ty.option t).isZC = false ∧ (Ty.bound t).isZC = false ∧ (Ty.controlFlow t u).isZC = false ∧
    (Ty.sliceRef t).isZC = false ∧ (Ty.adt m vs).isZC = false := by
  simp [Ty.isZC, hm]

mutual
/-- `IS_ZERO_COPY = true` implies plain old data: no type that owns heap memory or holds a
    reference computes the constant to `true`, at any nesting depth. -/
theorem Ty.zcConst_plain : ∀ (t : Ty), t.zcConst = true → t.plain = true
  | .prim _, _ | .phantom _, _ | .rangeFull, _ => rfl
  | .string, h | .boxStr, h | .vec _, h | .boxSlice _, h | .option _, h | .bound _, h | .controlFlow _ _, h
  | .sliceRef _, h | .serIter _, h => nomatch h
  | .array t _, h | .tuple t _, h | .range _ t, h => Ty.zcConst_plain t h
  | .adt _ vs, h => Variants.allConst_plain vs (Bool.and_eq_true_iff.mp h).2
theorem Fields.allConst_plain : ∀ (fs : Fields), fs.allConst = true → fs.allPlain = true
  | .nil, _ => rfl
  | .cons _ _ t r, h =>
    have ⟨ht, hr⟩ := Bool.and_eq_true_iff.mp h
    Bool.and_eq_true_iff.mpr ⟨Ty.zcConst_plain t ht, Fields.allConst_plain r hr⟩
theorem Variants.allConst_plain : ∀ (vs : Variants), vs.allConst = true → vs.allPlain = true
  | .nil, _ => rfl
  | .cons _ fs r, h =>
    have ⟨hf, hr⟩ := Bool.and_eq_true_iff.mp h
    Bool.and_eq_true_iff.mpr ⟨Fields.allConst_plain fs hf, Variants.allConst_plain r hr⟩
end

/-- The constant of a structure is false as soon as the C representation is missing or one field's
    constant is false — in particular for a field wrapped in arrays, tuples or ranges. -/
theorem zcConst_false_of_field (m : AdtMeta) (vs : Variants) (t : Ty) (hf : fieldOf vs t) (ht : t.zcConst = false) :
    (Ty.adt m vs).zcConst = false := by
  refine Bool.eq_false_iff.mpr fun h => ?_
  rw [allConst_variants vs (Bool.and_eq_true_iff.mp h).2 hf] at ht
  cases ht

theorem zcConst_false_no_reprC (m : AdtMeta) (vs : Variants) (h : [0x43] ∉ m.reprs) : (Ty.adt m vs).zcConst = false := by
  simp [Ty.zcConst, h]

/-- Wrappers do not hide a false constant (arrays, tuples, ranges — at any depth, by iteration). -/
theorem wrappers_propagate (t : Ty) (n : Nat) (k : RangeK) (h : t.zcConst = false) :
    (Ty.array t n).zcConst = false ∧ (Ty.tuple t n).zcConst = false ∧ (Ty.range k t).zcConst = false := by
  simp [Ty.zcConst, h]

/-- **The guard.** `serialize_zero` / `serialize_slice_zero` write the memory of a value only if
    the type is plain old data; otherwise they panic and the output is untouched (the result
    carries no bytes). -/
theorem guard_sound (t : Ty) (bytes out : B) (h : guardedZero t bytes = .ok out) : t.plain = true ∧ out = bytes := by
  unfold guardedZero at h
  split at h
  · exact ⟨Ty.zcConst_plain t ‹_›, by cases h; rfl⟩
  · cases h

theorem guard_panics (t : Ty) (bytes : B) (h : t.zcConst = false) : guardedZero t bytes = .panic := by
  simp [guardedZero, h]

/-- A definition declared zero-copy, at any arguments: either the compile-time layer refuses it,
    or the run-time guard panics before anything of the value is written, or the type has a C
    representation, is not also declared deep-copy, all its field types are `ZeroCopy` and its
    memory image is pointer-free. -/
theorem wrongly_declared_never_written (d : Def) (ta : List Ty) (ca : List Nat) (bytes : B) (hz : d.zero = true) :
    d.compileOK ta ca = false ∨ guardedZero (d.derive ta ca) bytes = .panic ∨
    (guardedZero (d.derive ta ca) bytes = .ok bytes ∧ [0x43] ∈ d.reprs ∧ d.deepAttr = false ∧
      (∀ t, fieldOf (instVariants ta ca d.variants) t → t.isZC = true) ∧ (d.derive ta ca).plain = true) := by
  cases hc : d.compileOK ta ca with
  | false => exact .inl rfl
  | true =>
    cases hk : (d.derive ta ca).zcConst with
    | false => exact .inr (.inl (guard_panics _ _ hk))
    | true =>
      have ⟨ha, hf⟩ := compileOK_zero hz hc
      exact .inr (.inr ⟨if_pos hk, ha.1, ha.2, fun t ht => allZC_variants _ hf ht, Ty.zcConst_plain _ hk⟩)

/-- `#[zero_copy] #[repr(C)] struct W { a: Vec<u8> }`: refused at compile time; and were the bound
    removed, the guard would panic. -/
def wrong : Def :=
  { name := [0x57], isEnum := false, zero := true, deepAttr := false, reprs := [[0x43]], alignAttr := 1,
    nTypeParams := 0, constParams := [], variants := [⟨[0x57], [⟨[0x61], .vec (.ty (.prim (.int .u8)))⟩]⟩] }
example : wrong.compileOK [] [] = false := by decide
example : guardedZero (wrong.derive [] []) [1, 2, 3] = .panic := by decide

/-- `#[zero_copy] #[repr(C)] struct G { a: u8 }`: accepted and written. -/
def good : Def :=
  { name := [0x47], isEnum := false, zero := true, deepAttr := false, reprs := [[0x43]], alignAttr := 1,
    nTypeParams := 0, constParams := [], variants := [⟨[0x47], [⟨[0x61], .ty (.prim (.int .u8))⟩]⟩] }
example : good.compileOK [] [] = true ∧ guardedZero (good.derive [] []) [7] = .ok [7] := by decide

end Eps.C17
