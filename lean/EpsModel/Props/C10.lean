/-
  C10 — Any corruption of the header's checked fields yields the specific error.

  The 29 fixed bytes of a header are six little-endian fields; *every* content of those bytes is
  `fixedHdr m maj min us sth sah` for the field values it decodes to, so the decision theorem below
  covers every single-bit flip, and every other corruption, of the fixed bytes at once.
  `check_header` is one function shared by both deserializers, so the statements about
  `checkHeader` hold for both modes; `deFull_corrupt` / `deEps_corrupt` lift them.
-/
import EpsModel.Lemmas.HeaderL
namespace Eps.C10

/-- The 29 fixed bytes holding the given field values. -/
def fixedHdr (m maj min us sth sah : Nat) : B :=
  leBytes 8 m ++ leBytes 2 maj ++ leBytes 2 min ++ leBytes 1 us ++ leBytes 8 sth ++ leBytes 8 sah

theorem exists_leBytes_append (w k : Nat) (h : B) (hl : h.length = w + k) :
    ∃ n t, n < 2 ^ (8 * w) ∧ t.length = k ∧ h = leBytes w n ++ t := by
  have hw : (h.take w).length = w := List.length_take.trans (Nat.min_eq_left (hl ▸ Nat.le_add_right w k))
  have hlt := leVal_lt (h.take w)
  have := leBytes_leVal (h.take w)
  rw [hw] at hlt this
  refine ⟨leVal (h.take w), h.drop w, hlt, by rw [List.length_drop, hl, Nat.add_sub_cancel_left], ?_⟩
  rw [this, List.take_append_drop]

/-- Every content of the 29 fixed bytes is `fixedHdr` of in-range field values: the decision
    theorem therefore speaks about every single-bit flip (and every other corruption) of them. -/
theorem fixedHdr_surjective (h : B) (hl : h.length = 29) :
    ∃ m maj min us sth sah, m < 2^64 ∧ maj < 2^16 ∧ min < 2^16 ∧ us < 2^8 ∧ sth < 2^64 ∧ sah < 2^64 ∧
      h = fixedHdr m maj min us sth sah := by
  obtain ⟨m, t1, hm, l1, rfl⟩ := exists_leBytes_append 8 21 h hl
  obtain ⟨maj, t2, hmaj, l2, rfl⟩ := exists_leBytes_append 2 19 t1 l1
  obtain ⟨min, t3, hmin, l3, rfl⟩ := exists_leBytes_append 2 17 t2 l2
  obtain ⟨us, t4, hus, l4, rfl⟩ := exists_leBytes_append 1 16 t3 l3
  obtain ⟨sth, t5, hsth, l5, rfl⟩ := exists_leBytes_append 8 8 t4 l4
  obtain ⟨sah, t6, hsah, l6, rfl⟩ := exists_leBytes_append 8 0 t5 l5
  refine ⟨m, maj, min, us, sth, sah, hm, hmaj, hmin, hus, hsth, hsah, ?_⟩
  rw [List.eq_nil_of_length_eq_zero l6, fixedHdr]
  simp only [List.append_assoc, List.append_nil]

/-- The header `write_header` writes is `fixedHdr` of the valid fields, then the name. -/
theorem wHeader_eq_fixedHdr (th ah : Nat) (name : B) :
    wHeader th ah name = fixedHdr magic versionMajor versionMinor usizeSize th ah ++ (leBytes 8 name.length ++ name) := by
  rw [wHeader, magicBytes_eq, fixedHdr]

/-- What `check_header` must answer for given field values, in the published order of the checks. -/
def expected (th ah m maj min us sth sah : Nat) : Option Err :=
  if m ≠ magic then (if m = magicRev then some .endianness else some (.magic m))
  else if maj ≠ versionMajor then some (.major maj)
  else if min > versionMinor then some (.minor min)
  else if us ≠ usizeSize then some (.usizeSize us)
  else if sth ≠ th then some (.wrongTypeHash sth)
  else if sah ≠ ah then some (.wrongAlignHash sah)
  else none

/-- Decision theorem: for every content of the fixed bytes (field values in range), followed by
    an intact type name, `check_header` returns exactly the expected error, carrying the offending
    value, or accepts; it never panics. -/
theorem checkHeader_decision (th ah m maj min us sth sah : Nat) (name rest : B)
    (hm : m < 2^64) (hmaj : maj < 2^16) (hmin : min < 2^16) (hus : us < 2^8)
    (hsth : sth < 2^64) (hsah : sah < 2^64)
    (hu : validUtf8 name = true) (hl : name.length < 2^63) :
    checkHeader th ah (fixedHdr m maj min us sth sah ++ (leBytes 8 name.length ++ name) ++ rest) 0 =
      match expected th ah m maj min us sth sah with
      | some e => .err e
      | none => .ok ((), rest, 37 + name.length) := by
  have hs := decFullStr_ok name rest (0 + 8 + 2 + 2 + 1 + 8 + 8) hu hl
  simp only [List.append_assoc] at hs
  -- the six words and the name are read back; pushing the `match` through the tests of `expected` (`apply_ite`)
  -- leaves the same cascade on both sides
  simp only [checkHeader, fixedHdr, List.append_assoc, readWord_leBytes 8 m _ _ hm, readWord_leBytes 2 maj _ _ hmaj,
    readWord_leBytes 2 min _ _ hmin, readWord_leBytes 1 us _ _ hus, readWord_leBytes 8 sth _ _ hsth,
    readWord_leBytes 8 sah _ _ hsah, hs, Res.bind_ok, expected, bne_iff_ne, beq_iff_eq,
    apply_ite (fun o : Option Err => (match o with | some e => .err e | none => .ok ((), rest, 37 + name.length) : RRes Unit)),
    ← Nat.add_assoc, Nat.reduceAdd]

/-- a test that can only refuse: the cascade accepts iff it does not fire and the rest accepts -/
theorem ite_eq_none {α : Type} {c : Prop} [Decidable c] {x r : Option α} (hx : x ≠ none) :
    (if c then x else r) = none ↔ ¬ c ∧ r = none := by
  by_cases h : c
  · rw [if_pos h]; exact ⟨fun e => absurd e hx, fun e => absurd h e.1⟩
  · rw [if_neg h]; exact ⟨fun e => ⟨h, e⟩, fun e => e.2⟩

/-- Acceptance is *only* possible when every field but the minor version is intact, and the minor
    version is not above the supported one: any other content of the fixed bytes is an error. -/
theorem expected_none_iff (th ah m maj min us sth sah : Nat) :
    expected th ah m maj min us sth sah = none ↔
      m = magic ∧ maj = versionMajor ∧ min ≤ versionMinor ∧ us = usizeSize ∧ sth = th ∧ sah = ah := by
  unfold expected
  rw [ite_eq_none (by split <;> exact Option.some_ne_none _), ite_eq_none (Option.some_ne_none _),
    ite_eq_none (Option.some_ne_none _), ite_eq_none (Option.some_ne_none _), ite_eq_none (Option.some_ne_none _),
    ite_eq_none (Option.some_ne_none _)]
  simp only [ne_eq, Decidable.not_not, Nat.not_lt, gt_iff_lt, and_true]

/-- A lower minor version is accepted exactly like the current one. -/
theorem minor_lower_ok (th ah min : Nat) (h : min ≤ versionMinor) :
    expected th ah magic versionMajor min usizeSize th ah = none :=
  (expected_none_iff ..).mpr ⟨rfl, rfl, h, rfl, rfl, rfl⟩

/-- A valid header (the fields `write_header` writes) is accepted. -/
theorem expected_valid (th ah : Nat) : expected th ah magic versionMajor versionMinor usizeSize th ah = none :=
  minor_lower_ok th ah versionMinor (Nat.le_refl _)

/-- One altered field: the specific error with the offending value (the cases of the property). -/
theorem err_magic (th ah m maj min us sth sah : Nat) (h : m ≠ magic) (h' : m ≠ magicRev) :
    expected th ah m maj min us sth sah = some (.magic m) := by simp [expected, h, h']
theorem err_endianness (th ah maj min us sth sah : Nat) :
    expected th ah magicRev maj min us sth sah = some .endianness := by
  simp [expected, (by decide : magicRev ≠ magic)]
theorem err_major (th ah maj min us sth sah : Nat) (h : maj ≠ versionMajor) :
    expected th ah magic maj min us sth sah = some (.major maj) := by simp [expected, h]
theorem err_minor (th ah min us sth sah : Nat) (h : min > versionMinor) :
    expected th ah magic versionMajor min us sth sah = some (.minor min) := by simp [expected, h]
theorem err_usize (th ah min us sth sah : Nat) (hmin : min ≤ versionMinor) (h : us ≠ usizeSize) :
    expected th ah magic versionMajor min us sth sah = some (.usizeSize us) := by
  simp [expected, Nat.not_lt.mpr hmin, h]
theorem err_typeHash (th ah min sth sah : Nat) (hmin : min ≤ versionMinor) (h : sth ≠ th) :
    expected th ah magic versionMajor min usizeSize sth sah = some (.wrongTypeHash sth) := by
  simp [expected, Nat.not_lt.mpr hmin, h]
theorem err_alignHash (th ah min sah : Nat) (hmin : min ≤ versionMinor) (h : sah ≠ ah) :
    expected th ah magic versionMajor min usizeSize th sah = some (.wrongAlignHash sah) := by
  simp [expected, Nat.not_lt.mpr hmin, h]

/-- Both deserializers run `check_header` first and propagate its error: whatever follows the
    header, a header error is the result of `deserialize_full` and of `deserialize_eps`. -/
theorem deFull_corrupt (H : B → Nat) (T : Ty) (s : B) (e : Err)
    (h : checkHeader (T.typeHash H) (T.alignHash H) s 0 = .err e) : T.deFull H s = .err e := by
  rw [Ty.deFull, h]; rfl
theorem deEps_corrupt (H : B → Nat) (T : Ty) (base : Nat) (s : B) (e : Err)
    (h : checkHeader (T.typeHash H) (T.alignHash H) s 0 = .err e) : T.deEps H base s = .err e := by
  rw [Ty.deEps, h]; rfl

/-- With a lowered minor version the value returned is the one of the intact file (both modes):
    the header check leaves the same state. -/
theorem minor_lower_same_state (th ah min : Nat) (name rest : B) (hmin : min ≤ versionMinor)
    (hth : th < 2^64) (hah : ah < 2^64) (hu : validUtf8 name = true) (hl : name.length < 2^63) :
    checkHeader th ah (fixedHdr magic versionMajor min usizeSize th ah ++ (leBytes 8 name.length ++ name) ++ rest) 0
      = checkHeader th ah (wHeader th ah name ++ rest) 0 := by
  have hlt : ∀ {n}, n ≤ versionMinor → n < 2^16 := fun h => Nat.lt_of_le_of_lt h (by decide)
  rw [wHeader_eq_fixedHdr,
    checkHeader_decision th ah magic versionMajor min usizeSize th ah name rest (by decide) (by decide) (hlt hmin)
      (by decide) hth hah hu hl,
    checkHeader_decision th ah magic versionMajor versionMinor usizeSize th ah name rest (by decide) (by decide)
      (hlt (Nat.le_refl _)) (by decide) hth hah hu hl,
    minor_lower_ok th ah min hmin, minor_lower_ok th ah versionMinor (Nat.le_refl _)]

/-- Non-vacuity: the header `write_header` writes is `fixedHdr` of the valid fields plus the name. -/
example (th ah : Nat) (name : B) :
    wHeader th ah name = fixedHdr magic versionMajor versionMinor usizeSize th ah ++ (leBytes 8 name.length ++ name) :=
  wHeader_eq_fixedHdr th ah name

end Eps.C10
