/-
  C01 — Full-copy round trip returns the value that was serialized.

  `H` is the digest function of the header (XXH3-64 in the crate): the theorems hold for every
  `H` with 64-bit values.
-/
import EpsModel.Lemmas.TopLevel
namespace Eps.C01

/-- Body level, any stream position, any trailing bytes: the full-copy reader returns exactly the
    value written, leaves the trailing bytes alone and advances by the number of bytes written.
    Every type of the well-formed universe (all built-in implementations, derived structs and
    enums at any nesting), every well-typed value. -/
theorem decFull_enc (T : Ty) (v : Val) (hT : T.wf = true) (hv : T.wt v = true) (pos : Nat) (rest : B) :
    T.decFull .reader (T.enc v pos ++ rest) pos = .ok (v, rest, pos + (T.enc v pos).length) :=
  Ty.framedFull .reader T hT v hv pos rest (AlignedAll_reader _)

/-- Trailing bytes after a serialized value are not looked at (streams can be concatenated). -/
theorem deFull_ser_append (H : B → Nat) (hH : ∀ b, H b < 2^64) (T : Ty) (name : B) (v : Val) (rest : B)
    (hT : T.wf = true) (hv : T.wt v = true)
    (hname : validUtf8 name = true) (hlen : name.length < 2^63) :
    T.deFull H (T.ser H name v ++ rest) = .ok (v, (T.ser H name v).length) := by
  rw [Ty.deFull_eq, (Ty.ser_spec hH hname hlen ((Ty.fullSpec .reader).ty T hT v hv _)).ok (AlignedAll_reader _) rest,
    Nat.zero_add]; rfl

/-- `deserialize_full(serialize(v)) = Ok(v)` and the bytes consumed are the bytes written — for
    every well-formed type, every well-typed value, every type name, every digest function. -/
theorem deFull_ser (H : B → Nat) (hH : ∀ b, H b < 2^64) (T : Ty) (name : B) (v : Val)
    (hT : T.wf = true) (hv : T.wt v = true)
    (hname : validUtf8 name = true) (hlen : name.length < 2^63) :
    T.deFull H (T.ser H name v) = .ok (v, (T.ser H name v).length) := by
  have := deFull_ser_append H hH T name v [] hT hv hname hlen
  rwa [List.append_nil] at this

/-- The one excluded class of values: an exhausted inclusive range is refused by the documented
    assertion (a panic), not silently turned into another value. -/
theorem decFull_exhausted (T : Ty) (a b : Val) (hT : T.wf = true) (ha : T.wt a = true) (hb : T.wt b = true)
    (pos : Nat) (rest : B) :
    (Ty.range .incl T).decFull .reader
      (T.enc a pos ++ T.enc b (pos + (T.enc a pos).length) ++ [1] ++ rest) pos = .panic := by
  unfold Ty.decFull
  rw [List.append_assoc, List.append_assoc, decFull_enc T a hT ha pos]
  simp only [Res.bind_ok, decFull_enc T b hT hb, List.singleton_append, readWord_byte]
  rfl

/-! Non-vacuity: concrete types and values meet the hypotheses. -/

example : (Ty.vec (.prim (.int .u32))).wf = true ∧
    (Ty.vec (.prim (.int .u32))).wt (.seq [.bits 1, .bits 2, .bits 4294967295]) = true :=
  ⟨by decide, by simp [Ty.wt, Ty.wtList, Prim.wt, IntK.size, Ty.sizeOf, Prim.size]⟩

example : (Ty.controlFlow (.prim (.int .u8)) .string).wf = true ∧
    (Ty.controlFlow (.prim (.int .u8)) .string).wt (.variant 1 [.str [0x68, 0x69]]) = true :=
  ⟨by decide, by simp [Ty.wt, validUtf8]⟩

example : (Ty.vec (.prim .unit)).wf = true ∧ (Ty.vec (.prim .unit)).wt (.seq [.unit, .unit]) = true :=
  ⟨by decide, by simp [Ty.wt, Ty.wtList, Ty.sizeOf, Prim.size]⟩

/-- a deep-copy struct `S { a: Option<Vec<u16>>, b: [String; 1] }` whose first field is read ε-copy -/
example :
    let T := Ty.adt { name := [83], isEnum := false, zero := false, deepAttr := false, reprs := [],
                      alignAttr := 1, consts := [] }
              (.cons [83] (.cons [97] true (.option (.vec (.prim (.int .u16))))
                          (.cons [98] false (.array .string 1) .nil)) .nil)
    T.wf = true ∧ T.wt (.record [.variant 1 [.seq [.bits 7]], .seq [.str []]]) = true := by
  refine ⟨by decide, ?_⟩
  simp [Ty.wt, Ty.wtList, Fields.wt, Prim.wt, IntK.size, Ty.sizeOf, Prim.size, validUtf8]

/-- a zero-copy enum `#[repr(C)] #[zero_copy] enum E { A, B(u16) }` (a 4-byte tag followed by the union
    of the variants) is in the well-formed universe, and so is a vector of it -/
example :
    let T := Ty.adt { name := [69], isEnum := true, zero := true, deepAttr := false, reprs := [[0x43]],
                      alignAttr := 1, consts := [] }
              (.cons [65] .nil (.cons [66] (.cons [48] false (.prim (.int .u16)) .nil) .nil))
    T.wf = true ∧ T.wt (.variant 1 [.bits 7]) = true ∧ (Ty.vec T).wf = true := by
  refine ⟨by decide, ?_, by decide⟩
  simp [Ty.wt, Fields.wt, Variants.wt, Prim.wt, IntK.size]

end Eps.C01
