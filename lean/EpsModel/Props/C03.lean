/-
  C03 — ε-copy borrows in place: in-bounds, aligned, allocation-free payload.
-/
import EpsModel.Lemmas.Framing
import EpsModel.Lemmas.BlocksL
import EpsModel.Lemmas.TopLevel
import EpsModel.Alloc
import EpsModel.Lemmas.AllocL
import EpsModel.Props.C02
namespace Eps.C03

/-- `Ty.deEps_ser_append` with what it means for the borrowed parts: each is a block the writer laid out, behind the
    header, inside the stream, on its unit. -/
theorem deEps_ser_sound (H : B → Nat) (hH : ∀ b, H b < 2^64) (T : Ty) (name : B) (v : Val) (base : Nat) (rest : B)
    (hT : T.wf = true) (hv : T.wt v = true) (hname : validUtf8 name = true) (hlen : name.length < 2^63)
    (ha : AlignedAll (.slice base) (T.blocks v (T.header H name).length)) :
    ∃ e, T.deEps H base (T.ser H name v ++ rest) = .ok (e, (T.ser H name v).length) ∧ e.erase = v ∧
      ∀ b ∈ e.borrows,
        b.toBlock ∈ T.blocks v (T.header H name).length ∧
        (T.header H name).length ≤ b.off ∧ b.off + b.len ≤ (T.ser H name v).length ∧
        (base + b.off) % b.unit = 0 := by
  obtain ⟨e, he, her, heb⟩ := Ty.deEps_ser_append H hH T name v base rest hT hv hname hlen ha
  refine ⟨e, he, her, fun b hb => ?_⟩
  have hmem := heb b hb
  have hin := Ty.blocks_in T v (T.header H name).length _ hmem
  refine ⟨hmem, hin.1, ?_, ha _ hmem⟩
  rw [show (T.ser H name v).length = (T.header H name).length + (T.enc v (T.header H name).length).length from
    List.length_append]
  exact hin.2

/-- **Borrow soundness**: every borrowed node (slice, string slice, reference) of the ε-copy
    result of a serialized stream
    * is one of the blocks of the writer: same offset, same length in bytes, same unit — it points
      exactly where the serializer wrote that data and has the written length;
    * covers only bytes of the stream (in fact of the body: after the header, before the end);
    * sits at an address that is a multiple of its unit (hence of the alignment of its element
      type, `C12.unit_implies_align`). -/
theorem borrow_sound (H : B → Nat) (hH : ∀ b, H b < 2^64) (T : Ty) (name : B) (v : Val) (base : Nat) (rest : B)
    (hT : T.wf = true) (hv : T.wt v = true) (hname : validUtf8 name = true) (hlen : name.length < 2^63)
    (ha : AlignedAll (.slice base) (T.blocks v (T.header H name).length)) :
    ∃ e, T.deEps H base (T.ser H name v ++ rest) = .ok (e, (T.ser H name v).length) ∧
      ∀ b ∈ e.borrows,
        b.toBlock ∈ T.blocks v (T.header H name).length ∧
        (T.header H name).length ≤ b.off ∧ b.off + b.len ≤ (T.ser H name v).length ∧
        (base + b.off) % b.unit = 0 := by
  obtain ⟨e, he, _, hb⟩ := deEps_ser_sound H hH T name v base rest hT hv hname hlen ha
  exact ⟨e, he, hb⟩

/-- A sequence of zero-copy elements comes back as a slice *into the buffer* at the block the
    writer emitted, for every length: the payload is referenced, not copied. Its in-memory elements
    (`vs`) are carried only to describe the value. -/
theorem vec_borrowed_in_place (base : Nat) (t : Ty) (vs : List Val) (pos : Nat) (rest : B)
    (hz : t.isZC = true) (hw : t.wf = true) (hwt : (Ty.vec t).wt (.seq vs) = true)
    (ha : ModeOK (.slice base) (pos + 8 + pad (pos + 8) t.maxSizeOf) t.maxSizeOf) :
    ∃ n, (Ty.vec t).decEps base ((Ty.vec t).enc (.seq vs) pos ++ rest) pos
      = .ok (.bSlice (pos + 8 + pad (pos + 8) t.maxSizeOf) t vs, rest, n) :=
  ⟨_, eps_vec_zero_shape base t vs pos rest hz hw hwt ha⟩

/-- `String` ↦ a borrowed `&str` right after the length (`Box<str>` is read by the same clause). -/
theorem string_borrowed_in_place (base : Nat) (b rest : B) (pos : Nat) (hl : b.length < 2^63) :
    Ty.string.decEps base (Ty.string.enc (.str b) pos ++ rest) pos
      = .ok (.bStr (pos + 8) b, rest, pos + (8 + b.length)) := by
  unfold Ty.enc Ty.decEps
  rw [(Spec.decEpsStr base b pos hl).ok (AlignedAll_unit1 _) rest, List.length_append, leBytes_length]

/-- **Allocation independent of borrowed payloads** (model level): replacing the payload of any
    borrowed node by any other payload — longer or shorter — does not change the allocation count. -/
theorem alloc_payload_independent (off off' : Nat) (t : Ty) (vs vs' : List Val) (b b' : B) (v v' : Val) :
    epsAllocs (.bSlice off t vs) = epsAllocs (.bSlice off' t vs') ∧
    epsAllocs (.bStr off b) = epsAllocs (.bStr off' b') ∧
    epsAllocs (.bRef off t v) = epsAllocs (.bRef off' t v') :=
  ⟨rfl, rfl, rfl⟩

/-- **What the ε-copy reader allocates is determined by the type and by the deep-copy skeleton of its result**, for
    every input (valid stream or not), base address and position: `Ty.allocOf` looks only at the nodes the type makes
    rebuilt (deep sequences and arrays: one allocation when non-empty, plus their items) and at the fields that are fully
    copied by design; strings, sequences of zero-copy items, zero-copy arrays / tuples / structures contribute nothing
    whatever they contain (`Ty.allocOf_string`, `Ty.allocOf_vec_zero`, … hold for *every* value). -/
theorem eps_alloc_determined (base : Nat) (T : Ty) (d : B) (pos : Nat) (e : EVal) (d' : B) (p' : Nat)
    (h : T.decEps base d pos = .ok (e, d', p')) : epsAllocs e = T.allocOf e.erase :=
  Ty.eps_alloc base T d pos e d' p' h

/-- **Allocation independent of the borrowed payloads** (the second sentence of the property, at full strength on the
    model's reader): two values of one type with the same deep-copy skeleton (`Ty.skel`: they differ only in what is
    borrowed — contents and lengths of strings and zero-copy sequences, zero-copy data) cost the ε-copy reader the same
    allocations, wherever their streams are placed. -/
theorem alloc_independent_of_borrowed_payloads (base base' : Nat) (T : Ty) (v w : Val) (hT : T.wf = true)
    (hv : T.wt v = true) (hw : T.wt w = true) (pos pos' : Nat) (rest rest' : B)
    (ha : AlignedAll (.slice base) (T.blocks v pos)) (ha' : AlignedAll (.slice base') (T.blocks w pos'))
    (hs : T.skel v = T.skel w) :
    ∃ e e', T.decEps base (T.enc v pos ++ rest) pos = .ok (e, rest, pos + (T.enc v pos).length) ∧
      T.decEps base' (T.enc w pos' ++ rest') pos' = .ok (e', rest', pos' + (T.enc w pos').length) ∧
      epsAllocs e = epsAllocs e' := by
  obtain ⟨e, he, hev, _⟩ := C02.decEps_enc base T v hT hv pos rest ha
  obtain ⟨e', he', hew, _⟩ := C02.decEps_enc base' T w hT hw pos' rest' ha'
  refine ⟨e, e', he, he', ?_⟩
  rw [Ty.eps_alloc base T _ pos e _ _ he, Ty.eps_alloc base' T _ pos' e' _ _ he', hev, hew]
  exact Ty.allocOf_of_skel_eq T v w hs

/-- Non-vacuity of the skeleton hypothesis: a structure `{ a: A = Vec<u8> (a type parameter), n: u16 }` holding three
    bytes and one holding none have the same skeleton; so have two vectors of strings of the same length. -/
example :
    let T : Ty := .adt ⟨[0x57], false, false, false, [], 1, []⟩ (.cons [0x57] (.cons [0x61] true (.vec (.prim (.int .u8))) (.cons [0x6e] false (.prim (.int .u16)) .nil)) .nil)
    T.skel (.record [.seq [.bits 1, .bits 2, .bits 3], .bits 7]) = T.skel (.record [.seq [], .bits 7]) := by
  simp [Ty.skel_adt, Fields.skel_cons, Ty.skel_vec, Ty.isZC]
example : (Ty.vec .string).skel (.seq [.str [1, 2, 3], .str []]) = (Ty.vec .string).skel (.seq [.str [], .str [9]]) := by
  simp [Ty.skel_vec, Ty.skelList_cons, Ty.skel_string, Ty.isZC]
/-- … and a longer vector of strings has a different one (the rebuilt sequence keeps its length). -/
example : (Ty.vec .string).skel (.seq [.str [1]]) ≠ (Ty.vec .string).skel (.seq [.str [1], .str [2]]) := by
  simp [Ty.skel_vec, Ty.skelList_cons, Ty.skel_string, Ty.isZC]

/-- Non-vacuity: `Vec<u32>` with one block. -/
example : AlignedAll (.slice 0) ((Ty.vec (.prim (.int .u32))).blocks (.seq [.bits 1]) 60) := by
  intro b hb
  simp [Ty.blocks, Ty.blocksSeq, Ty.isZC, Ty.maxSizeOf, Prim.size, IntK.size] at hb
  subst hb
  simp [ModeOK, pad]

end Eps.C03
