/-
  C14 — Reader fragmentation does not change the value; reader failure is an error.

  The full-copy reader touches its source only through `read_exact`; `read_exact` is the standard
  loop over a raw device. `readExact_chunk_invariant` shows that loop delivers exactly what a
  single read of the flat bytes delivers, for every fragmentation / interruption schedule, so the
  model's reader over flat bytes is the reader over any fragmenting source. A source that fails at
  position `k` delivers exactly the first `k` bytes, i.e. it is the truncated stream of C11.
-/
import EpsModel.IO
import EpsModel.Props.C11
import EpsModel.Props.C01
namespace Eps.C14
open Eps.IO

/-- A schedule that makes progress: short reads of at least one byte and interruptions, in any
    order (one byte at a time, prime sizes, random sizes, interleaved `Interrupted`, …). -/
def Progress (rs : List Resp) : Prop := ∀ r ∈ rs, r = .interrupted ∨ ∃ m, r = .take (m + 1)

theorem Progress.tail {r : Resp} {rs : List Resp} (h : Progress (r :: rs)) : Progress rs :=
  fun x hx => h x (List.mem_cons_of_mem _ hx)

/-- **Chunking invariance of `read_exact`**: under every progressing schedule it returns the next
    `n` bytes and leaves the rest, exactly like one read of the flat bytes, when `n` bytes are
    available; and fails when they are not. -/
theorem readExact_chunk_invariant : ∀ (rs : List Resp) (data : B) (n : Nat), Progress rs →
    (n ≤ data.length →
      (readExactSched rs data n).1 = data.take n ∧ (readExactSched rs data n).2.1 = data.drop n ∧
      (readExactSched rs data n).2.2.2 = true) ∧
    (data.length < n → (readExactSched rs data n).2.2.2 = false) := by
  intro rs data n
  -- the cases of `readExactSched.induct` are the clauses of `readExactSched` in order; the second gives two, one per branch
  induction rs, data, n using readExactSched.induct with
  | case1 => simp [readExactSched]
  | case2 data n h => intro _; rw [readExactSched]; simp [h]
  | case3 data n h => intro _; rw [readExactSched]; simp [h]
  | case4 rs data n ih => intro hp; rw [readExactSched]; exact ih hp.tail
  | case5 rs data n => intro hp; rcases hp .fail List.mem_cons_self with h | ⟨_, h⟩ <;> cases h
  | case6 rs data n => intro hp; rcases hp (.take 0) List.mem_cons_self with h | ⟨_, h⟩ <;> cases h
  | case7 => intro _; rw [readExactSched]; simp
  | case8 m rs d ds n k ih =>
      intro hp
      have ih := ih hp.tail
      have hk : min (min (m + 1) (n + 1)) (d :: ds).length = k := rfl
      clear_value k
      rw [readExactSched]
      simp only [hk]
      -- `k` bytes are handed over now, `n + 1 - k` remain to be read from `drop k`
      have hk1 : k ≤ n + 1 := hk ▸ Nat.le_trans (Nat.min_le_left _ _) (Nat.min_le_right _ _)
      have hk2 : k ≤ (d :: ds).length := hk ▸ Nat.min_le_right _ _
      have hl : ((d :: ds).drop k).length = (d :: ds).length - k := List.length_drop
      constructor
      · intro hle
        obtain ⟨e1, e2, e3⟩ := ih.1 (hl ▸ Nat.sub_le_sub_right hle k)
        exact ⟨by rw [e1, ← List.take_add, Nat.add_sub_cancel' hk1],
          by rw [e2, List.drop_drop, Nat.add_sub_cancel' hk1], e3⟩
      · intro hlt
        exact ih.2 (hl ▸ Nat.sub_lt_sub_right hk2 hlt)

/-- the bytes a source delivers before failing at position `k` -/
theorem take_spre (s : B) (k : Nat) (h : k < s.length) : SPre (s.take k) s :=
  ⟨s.drop k, fun hnil => Nat.not_le_of_lt h (List.drop_eq_nil_iff.mp hnil), (List.take_append_drop k s).symm⟩

/-- **Reader failure**: a source failing (or ending) at any position `k` before the end of a
    serialized stream makes `deserialize_full` return a read error — never a value, never a panic. -/
theorem rfail_result (H : B → Nat) (hH : ∀ b, H b < 2^64) (T : Ty) (name : B) (v : Val) (k : Nat)
    (hT : T.wf = true) (hv : T.wt v = true) (hname : validUtf8 name = true) (hlen : name.length < 2^63)
    (hk : k < (T.ser H name v).length) :
    T.deFull H ((T.ser H name v).take k) = .err .readError :=
  C11.prefix_full H hH T name v _ hT hv hname hlen (take_spre _ k hk)

/-- **Fragmentation**: whatever the fragmentation, the value is the one of the flat stream (C01). -/
theorem chunk_value (H : B → Nat) (hH : ∀ b, H b < 2^64) (T : Ty) (name : B) (v : Val)
    (hT : T.wf = true) (hv : T.wt v = true) (hname : validUtf8 name = true) (hlen : name.length < 2^63) :
    T.deFull H (T.ser H name v) = .ok (v, (T.ser H name v).length) :=
  C01.deFull_ser H hH T name v hT hv hname hlen

/-- Non-vacuity: one byte at a time with interruptions is a progressing schedule. -/
example : Progress [.take 1, .interrupted, .take 1, .take 3] := by
  intro r hr; simp at hr; rcases hr with rfl | rfl | rfl | rfl <;> simp

example : (readExactSched [.take 1, .interrupted, .take 1, .take 3] [1, 2, 3, 4, 5] 4).1 = [1, 2, 3, 4] := by
  simp [readExactSched]

end Eps.C14
