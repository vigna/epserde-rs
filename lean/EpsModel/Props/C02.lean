/-
  C02 — ε-copy round trip equals the original and agrees with full copy.
-/
import EpsModel.Lemmas.TopLevel
import EpsModel.Lemmas.Agree
import EpsModel.Lemmas.BlocksL
import EpsModel.Props.C01
namespace Eps.C02

/-- Body level: wherever the value was serialized, if the buffer is placed so that every
    zero-copy block is on a multiple of its unit, the ε-copy reader returns a result that describes
    exactly the value written (`erase` forgets only where the data lives), leaves the rest of the
    buffer alone, consumes exactly the bytes written, and borrows only at blocks of the writer. -/
theorem decEps_enc (base : Nat) (T : Ty) (v : Val) (hT : T.wf = true) (hv : T.wt v = true)
    (pos : Nat) (rest : B) (ha : AlignedAll (.slice base) (T.blocks v pos)) :
    ∃ e, T.decEps base (T.enc v pos ++ rest) pos = .ok (e, rest, pos + (T.enc v pos).length)
      ∧ e.erase = v ∧ ∀ b ∈ e.borrows, b.toBlock ∈ T.blocks v pos :=
  Ty.framedEps base T hT v hv pos rest ha

/-- A base address that is a multiple of the unit of every block aligns every block (blocks start
    at multiples of their units in the stream, `C07.blocks_aligned`) — in particular any multiple of
    the largest unit, units being powers of two (`C07.unit_pow2`). -/
theorem aligned_of_base_multiple (base : Nat) (T : Ty) (hT : T.wf = true) (v : Val) (pos : Nat)
    (hb : ∀ b ∈ T.blocks v pos, base % b.unit = 0) : AlignedAll (.slice base) (T.blocks v pos) := by
  intro b hbm
  show (base + b.off) % b.unit = 0
  rw [Nat.add_mod, hb b hbm, Ty.blocks_ok T hT v pos b hbm]
  exact Nat.zero_mod _

/-- `deserialize_eps(serialize(v))` from a suitably aligned buffer: a result describing `v`, all
    bytes consumed — every well-formed type, value, name, digest function. -/
theorem deEps_ser (H : B → Nat) (hH : ∀ b, H b < 2^64) (T : Ty) (name : B) (v : Val) (base : Nat)
    (hT : T.wf = true) (hv : T.wt v = true) (hname : validUtf8 name = true) (hlen : name.length < 2^63)
    (hb : ∀ b ∈ T.blocks v (T.header H name).length, base % b.unit = 0) :
    ∃ e, T.deEps H base (T.ser H name v) = .ok (e, (T.ser H name v).length) ∧ e.erase = v := by
  obtain ⟨e, he, her, _⟩ := Ty.deEps_ser_append H hH T name v base [] hT hv hname hlen (aligned_of_base_multiple base T hT v _ hb)
  simp only [List.append_nil] at he
  exact ⟨e, he, her⟩

/-- On the serialized stream both modes describe the same value and consume the same bytes. -/
theorem eps_full_agree_on_ser (H : B → Nat) (hH : ∀ b, H b < 2^64) (T : Ty) (name : B) (v : Val) (base : Nat)
    (hT : T.wf = true) (hv : T.wt v = true) (hname : validUtf8 name = true) (hlen : name.length < 2^63)
    (hb : ∀ b ∈ T.blocks v (T.header H name).length, base % b.unit = 0) :
    ∃ e n, T.deEps H base (T.ser H name v) = .ok (e, n) ∧ T.deFull H (T.ser H name v) = .ok (e.erase, n) := by
  obtain ⟨e, he, her⟩ := deEps_ser H hH T name v base hT hv hname hlen hb
  exact ⟨e, _, he, by rw [her]; exact C01.deFull_ser H hH T name v hT hv hname hlen⟩

/-! ### Agreement of the two modes on arbitrary bytes -/

/-- Body level, **any bytes** (not only serialized streams), any type, any base address: whenever
    the ε-copy reader returns a result whose borrowed strings hold valid UTF-8, the full-copy reader
    returns the value that result describes, leaves the same rest and reaches the same position.
    (`d.length ≤ isize::MAX` holds of every Rust slice.) -/
theorem eps_full_agree_any_bytes (base : Nat) (T : Ty) (d : B) (pos : Nat) (e : EVal) (d' : B) (p' : Nat)
    (hd : d.length ≤ isizeMax) (h : T.decEps base d pos = .ok (e, d', p')) (hs : e.strsValid) :
    T.decFull .reader d pos = .ok (e.erase, d', p') :=
  Ty.eps_full_agree base T d pos hd e d' p' h hs

/-- The same for the entry points, header check included. -/
theorem deEps_deFull_agree_any_bytes (H : B → Nat) (T : Ty) (base : Nat) (s : B) (e : EVal) (n : Nat)
    (hd : s.length ≤ isizeMax) (h : T.deEps H base s = .ok (e, n)) (hs : e.strsValid) :
    T.deFull H s = .ok (e.erase, n) := by
  obtain ⟨⟨_, d1, p1⟩, h1, h2⟩ := Res.bind_eq_ok h
  obtain ⟨⟨e', d2, p2⟩, h3, h4⟩ := Res.bind_eq_ok h2
  cases h4
  have hd1 := (Shr.checkHeader _ _ s 0).rest_le h1 hd
  exact Res.bind_eq_of h1 (Res.bind_eq_of (Ty.eps_full_agree base T d1 p1 hd1 e d2 n h3 hs) rfl)

/-- The fields that the derived ε-copy code reads with the full-copy methods (on the slice) get the
    value the plain full-copy reader gets: the slice reader only adds failure cases. -/
theorem full_on_slice_agrees (base : Nat) (T : Ty) (d : B) (pos : Nat) (x : Val × B × Nat)
    (h : T.decFull (.slice base) d pos = .ok x) : T.decFull .reader d pos = .ok x :=
  Ty.decFull_mode base T d pos x h

/-- The UTF-8 hypothesis cannot be dropped: the ε-copy reader borrows a string without validating it
    (it transmutes the bytes), the full-copy reader panics on the same bytes. Length 1, byte 0xff. -/
theorem eps_accepts_invalid_utf8 :
    ∃ e, Ty.string.decEps 0 [1, 0, 0, 0, 0, 0, 0, 0, 0xff] 0 = .ok (e, [], 9) ∧
      Ty.string.decFull .reader [1, 0, 0, 0, 0, 0, 0, 0, 0xff] 0 = .panic :=
  ⟨.bStr 8 [0xff], rfl, rfl⟩

/-! Non-vacuity: a buffer at address 0 mod 8 aligns `Vec<u64>` wherever the body starts. -/
example (pos : Nat) (vs : List Val) (base : Nat) (h : base % 8 = 0) :
    ∀ b ∈ (Ty.vec (.prim (.int .u64))).blocks (.seq vs) pos, base % b.unit = 0 := by
  intro b hb
  simp [Ty.blocks, Ty.blocksSeq, Ty.isZC, Ty.maxSizeOf, Prim.size, IntK.size] at hb
  subst hb; simpa using h

end Eps.C02
