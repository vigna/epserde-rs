/-
  C11 — A truncated file (crash while storing) is never deserialized into a value.
-/
import EpsModel.Lemmas.TopLevel
import EpsModel.Loaders
namespace Eps.C11

/-- A strict prefix of the header makes `check_header` fail with a read error. -/
theorem checkHeader_prefix (th ah : Nat) (name p : B) (hth : th < 2^64) (hah : ah < 2^64)
    (hl : name.length < 2^63) (h : SPre p (wHeader th ah name)) :
    checkHeader th ah p 0 = .err .readError := by
  unfold wHeader at h
  simp only [List.append_assoc, magicBytes_eq] at h
  unfold checkHeader
  -- word by word, as in `checkHeader_spec`; the name at the end is only ever cut, so it need not be UTF-8
  refine Spec.word_short (m := .reader) (by decide) (fun p h => ?_) p h
  simp only [bne_self_eq_false, Bool.false_eq_true, if_false]
  refine Spec.word_short (m := .reader) (by decide) (fun p h => ?_) p h
  simp only [bne_self_eq_false, Bool.false_eq_true, if_false]
  refine Spec.word_short (m := .reader) (by decide) (fun p h => ?_) p h
  simp only [gt_iff_lt, Nat.lt_irrefl, if_false]
  refine Spec.word_short (m := .reader) (by decide) (fun p h => ?_) p h
  simp only [bne_self_eq_false, Bool.false_eq_true, if_false]
  refine Spec.word_short (m := .reader) (by omega) (fun p h => ?_) p h
  refine Spec.word_short (m := .reader) (by omega) (fun p h => ?_) p h
  exact (Spec.decFullStr_short .reader name _ hl p h).bind _

/-- **Full copy**: every strict prefix of a serialized stream — every cut point, every type, value,
    name, digest function — is refused with a read error. -/
theorem prefix_full (H : B → Nat) (hH : ∀ b, H b < 2^64) (T : Ty) (name : B) (v : Val) (p : B)
    (hT : T.wf = true) (hv : T.wt v = true) (hname : validUtf8 name = true) (hlen : name.length < 2^63)
    (h : SPre p (T.ser H name v)) : T.deFull H p = .err .readError := by
  have : _ = _ := (Ty.ser_spec hH hname hlen ((Ty.fullSpec .reader).ty T hT v hv _)).short p h
  rw [Ty.deFull_eq, this]; rfl

/-- **ε-copy**: every strict prefix, at every base address, fails: an error or a bounds-check
    panic, never a value. -/
theorem prefix_eps (H : B → Nat) (hH : ∀ b, H b < 2^64) (T : Ty) (name : B) (v : Val) (p : B) (base : Nat)
    (hT : T.wf = true) (hv : T.wt v = true) (hname : validUtf8 name = true) (hlen : name.length < 2^63)
    (h : SPre p (T.ser H name v)) : ∀ x, T.deEps H base p ≠ .ok x := by
  obtain ⟨e, hs, _⟩ := (Ty.epsSpec base).ty T hT v hv (T.header H name).length
  rw [Ty.deEps_eq]; exact NotOk.bind _ ((Ty.ser_spec hH hname hlen hs).short p h)

/-- The model readers only ever look at the bytes they are given (`p`): by construction nothing
    outside the prefix is read. Body-level versions, at any stream position: -/
theorem prefix_body_full (T : Ty) (v : Val) (hT : T.wf = true) (hv : T.wt v = true) (pos : Nat) (p : B)
    (h : SPre p (T.enc v pos)) : T.decFull .reader p pos = .err .readError :=
  (Ty.trunc 0 T hT v hv).1 pos p h
theorem prefix_body_eps (base : Nat) (T : Ty) (v : Val) (hT : T.wf = true) (hv : T.wt v = true) (pos : Nat) (p : B)
    (h : SPre p (T.enc v pos)) : ∀ x, T.decEps base p pos ≠ .ok x :=
  (Ty.trunc base T hT v hv).2.2 pos p h

/-! ### The file-backed entry points that do not zero-extend -/

/-- `load_full` reads the file through a `BufReader`: a file cut at any point gives a read error. -/
theorem file_prefix_load_full (H : B → Nat) (hH : ∀ b, H b < 2^64) (T : Ty) (name : B) (v : Val) (file : B)
    (hT : T.wf = true) (hv : T.wt v = true) (hname : validUtf8 name = true) (hlen : name.length < 2^63)
    (h : SPre file (T.ser H name v)) : T.deFull H file = .err .readError :=
  prefix_full H hH T name v file hT hv hname hlen h

/-- `mmap` of a truncated file: the backing region is the file itself (no zero extension), and
    ε-copy deserialization of it, wherever the mapping is placed, never returns a structure. -/
theorem file_prefix_mmap (H : B → Nat) (hH : ∀ b, H b < 2^64) (T : Ty) (name : B) (v : Val) (file : B) (base : Nat)
    (hT : T.wf = true) (hv : T.wt v = true) (hname : validUtf8 name = true) (hlen : name.length < 2^63)
    (h : SPre file (T.ser H name v)) : ∀ x, T.deEps H base (regionOf .map file) ≠ .ok x :=
  prefix_eps H hH T name v (regionOf .map file) base hT hv hname hlen h

/-- Non-vacuity: a 3-byte cut of a 4-byte integer is a strict prefix. -/
example : SPre [1, 0, 0] ((Ty.prim (.int .u32)).enc (.bits 1) 0) := ⟨[0], by simp, by simp [Ty.enc, leBytes, Prim.size, IntK.size]⟩

end Eps.C11
