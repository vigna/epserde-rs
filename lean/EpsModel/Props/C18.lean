/-
  C18 — The recorded schema describes exactly the bytes that were written.

  The model of `SchemaWriter` is a forest (`Ty.schemaTrees`); the recorded `Schema` is its
  pre-order traversal (`Ty.schema`, by definition: `write` inserts its row before the rows of what
  it writes). That the recording writer hands the sink the same bytes as the plain writer is
  checked by the correspondence (the `schema` operation compares them); the theorems below are
  about the rows.
-/
import EpsModel.Lemmas.SchemaL
import EpsModel.Lemmas.SchemaPad
import EpsModel.Lemmas.HeaderL
namespace Eps.C18

/-- Rows are in pre-order: the schema is the pre-order traversal of the forest, top level at depth 1. -/
theorem rows_preorder (T : Ty) (name : B) (v : Val) :
    T.schema name v = Tree.rowsList (T.schemaTrees name v) 1 := rfl

theorem ser_length (H : B → Nat) (T : Ty) (name : B) (v : Val) :
    (T.ser H name v).length = 37 + name.length + (T.enc v (37 + name.length)).length := by
  unfold Ty.ser; simp only [List.length_append, Ty.header_length]

/-- The forest of a whole file is well formed, also in the middle of a stream: when `k` bytes have been written before (`serialize_on_field_write` on a
    position-tracking writer at position `k`, wrapped in a `SchemaWriter`), the rows tile `[k, k + |header| + |body|)`, the
    children of every composite row tile it, and zero-copy rows are aligned — for every `k`. -/
theorem schema_forest_ok_at (T : Ty) (name : B) (v : Val) (k : Nat) (hT : T.wf = true) (hv : T.wt v = true) :
    ForestOK (T.schemaTreesAt name v k) k (37 + name.length + (T.enc v (k + (37 + name.length))).length) := by
  -- the row of the type name: the length word, then the bytes with unit 1
  have hname : ForestOK [.node (k + 29) 8 0 false [], .node (k + 37) name.length 1 false []] (k + 29) (8 + name.length) :=
    .node (.nil _ _) (cons_ok _ [] _ 0 rfl (leaf_ok _ false (Nat.mod_one _)) (.nil _))
  have hroot : ForestOK [T.treeW v (k + (37 + name.length))] (k + 29 + (8 + name.length)) _ :=
    (ForestOK.write_last (treeW_ok T v _ (Ty.trees_ok T hT v hv _))).congr (by omega) rfl
  unfold Ty.schemaTreesAt
  -- six leaves, the type name, the root
  exact ForestOK.congr
    (.node (.nil _ _) <| .node (.nil _ _) <| .node (.nil _ _) <| .node (.nil _ _) <| .node (.nil _ _) <| .node (.nil _ _) <|
      .node hname.toTrees hroot)
    rfl (by omega)

theorem schema_forest_ok (T : Ty) (name : B) (v : Val) (hT : T.wf = true) (hv : T.wt v = true) :
    ForestOK (T.schemaTrees name v) 0 (37 + name.length + (T.enc v (37 + name.length)).length) := by
  have := schema_forest_ok_at T name v 0 hT hv
  rwa [Ty.schemaTreesAt_zero, Nat.zero_add] at this

/-- **Top-level rows tile the whole stream**: contiguous from offset 0 to the end of the stream. -/
theorem top_tile (H : B → Nat) (T : Ty) (name : B) (v : Val) (hT : T.wf = true) (hv : T.wt v = true) :
    contig (T.schemaTrees name v) 0 = some (T.ser H name v).length := by
  rw [ser_length, (schema_forest_ok T name v hT hv).cover, Nat.zero_add]

/-- **The children of every composite row tile it** without gaps or overlaps, at every depth. -/
theorem children_tile (T : Ty) (name : B) (v : Val) (hT : T.wf = true) (hv : T.wt v = true) :
    Tree.tiledList (T.schemaTrees name v) = true :=
  (schema_forest_ok T name v hT hv).tiled

/-- **Each block of zero-copy data starts at a multiple of its recorded alignment** (rows whose
    alignment is not applicable record 0; padding rows record 1). -/
theorem zero_rows_aligned (T : Ty) (name : B) (v : Val) (hT : T.wf = true) (hv : T.wt v = true) :
    Tree.alignedList (T.schemaTrees name v) = true :=
  (schema_forest_ok T name v hT hv).aligned

mutual
theorem rows_within : ∀ (t : Tree) (d lo hi : Nat), t.tiled = true → lo ≤ t.off → t.off + t.size ≤ hi →
    ∀ r ∈ t.rows d, lo ≤ r.off ∧ r.off + r.size ≤ hi
  | .node o s a p kids, d, lo, hi, ht, hlo, hhi => by
      intro r hr
      unfold Tree.rows at hr
      rcases List.mem_cons.mp hr with rfl | hr
      · exact ⟨hlo, hhi⟩
      · unfold Tree.tiled at ht
        obtain ⟨hk, htl⟩ := Bool.and_eq_true_iff.mp ht
        -- a row with rows below it has children, and they tile it
        cases kids with
        | nil => cases hr
        | cons k ks => exact rowsList_within (k :: ks) (d + 1) o (o + s) lo hi (beq_iff_eq.mp hk) htl hlo hhi r hr
theorem rowsList_within : ∀ (ts : List Tree) (d p q lo hi : Nat), contig ts p = some q → Tree.tiledList ts = true →
    lo ≤ p → q ≤ hi → ∀ r ∈ Tree.rowsList ts d, lo ≤ r.off ∧ r.off + r.size ≤ hi
  | [], _, _, _, _, _, _, _, _, _ => fun r hr => nomatch hr
  | t :: ts, d, p, q, lo, hi, hc, ht, hlo, hhi => by
      intro r hr
      unfold contig at hc
      split at hc
      · rename_i hoff
        unfold Tree.tiledList at ht
        obtain ⟨ht1, ht2⟩ := Bool.and_eq_true_iff.mp ht
        have hq : p + t.size ≤ q := contig_ge ts (p + t.size) q hc
        unfold Tree.rowsList at hr
        rcases List.mem_append.mp hr with hr | hr
        · exact rows_within t d lo hi ht1 (hoff ▸ hlo) (hoff ▸ Nat.le_trans hq hhi) r hr
        · exact rowsList_within ts d (p + t.size) q lo hi hc ht2 (Nat.le_trans hlo (Nat.le_add_right _ _)) hhi r hr
      · cases hc
end

/-- **Every row lies within the stream** — so rendering the schema as an annotated dump of that
    stream (`debug`, which slices `data[offset .. offset + size]`) or as CSV indexes only inside
    the stream and cannot fail. -/
theorem rows_in_stream (H : B → Nat) (T : Ty) (name : B) (v : Val) (hT : T.wf = true) (hv : T.wt v = true) :
    ∀ r ∈ T.schema name v, r.off + r.size ≤ (T.ser H name v).length :=
  fun r hr => (rowsList_within _ 1 0 _ 0 _ (top_tile H T name v hT hv) (children_tile T name v hT hv)
    (Nat.le_refl _) (Nat.le_refl _) r hr).2

/-- **Padding rows cover zero bytes**: every `PADDING` node of the recorded forest, at any depth,
    lies inside the stream and the bytes of the stream in its range are all zero — for every type,
    every well-typed value, every name and digest function. (Stated on the forest: a padding row is
    a node with `isPad = true`; `Tree.padsZeroL` walks all nodes.) -/
theorem padding_rows_zero (H : B → Nat) (T : Ty) (name : B) (v : Val) (hv : T.wt v = true) :
    Tree.padsZeroL (T.ser H name v) 0 (T.schemaTrees name v) := by
  simp only [Ty.schemaTrees, Tree.padsZeroL, and_true]
  refine ⟨leaf_pads _ _ _ _ _, leaf_pads _ _ _ _ _, leaf_pads _ _ _ _ _, leaf_pads _ _ _ _ _, leaf_pads _ _ _ _ _,
    leaf_pads _ _ _ _ _, ?_, ?_⟩
  · simp [Tree.padsZero, Tree.padsZeroL]
  · rw [treeW_pads, Ty.ser, ← Ty.header_length H T name]
    exact Tree.embedL_pre _ _ 0 _ (by rw [Nat.zero_add]; exact Ty.pads T v hv _)

/-- the body-level statement: wherever the value is written -/
theorem padding_rows_zero_body (T : Ty) (v : Val) (hv : T.wt v = true) (pos : Nat) :
    Tree.padsZeroL (T.enc v pos) pos (T.trees v pos) := Ty.pads T v hv pos

/-- Non-vacuity: a padding node really is constrained — the forest of `Vec<u32>` written at position 1
    has a `PADDING` node of 3 bytes at offset 9. -/
example : (Ty.vec (.prim (.int .u32))).trees (.seq [.bits 5]) 1 =
    [.node 1 8 0 false [], .node 9 3 1 true [], .node 12 4 4 false []] := by
  -- `unfold Ty.trees`, not `simp [Ty.trees]`: nothing imported has asked for the clause-by-clause equations of `Ty.trees`,
  -- and deriving them here takes seconds (the case analysis of its 25-clause `match`)
  unfold Ty.trees
  simp [Ty.treesSeq, Ty.isZC, zeroTrees, padTrees, pad, Ty.maxSizeOf, Prim.size, IntK.size, Ty.toMemList, Ty.toMem, leBytes]

/-- Non-vacuity: the forest of `Option<u8>::Some(7)` at position 0. -/
example : (Ty.option (.prim (.int .u8))).trees (.variant 1 [.bits 7]) 0
    = [.node 0 1 0 false [], .node 1 1 0 false []] := by
  unfold Ty.trees
  show [Tree.node 0 1 0 false [], Ty.treeW (.prim (.int .u8)) (.bits 7) 1] = _
  unfold Ty.treeW Ty.trees Ty.enc
  rfl

end Eps.C18
