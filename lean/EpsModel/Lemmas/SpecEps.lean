/-
  The ε-copy reader on the writer's output: it satisfies `Spec` (on a slice) at every well-typed
  value of every well-formed type, with a result that describes the value and borrows only at the
  writer's blocks.
-/
import EpsModel.Lemmas.SpecFull
namespace Eps

/-- `e` describes `v` and borrows only at the blocks `bs`. -/
def EVal.For (e : EVal) (v : Val) (bs : List Block) : Prop :=
  e.erase = v ∧ ∀ b ∈ e.borrows, b.toBlock ∈ bs

/-- `es` describe `vs` and borrow only at the blocks `bs`. -/
def EVal.ForList (es : List EVal) (vs : List Val) (bs : List Block) : Prop :=
  EVal.eraseList es = vs ∧ ∀ b ∈ EVal.borrowsList es, b.toBlock ∈ bs

theorem EVal.For.noBorrow {e : EVal} {v : Val} (he : e.erase = v) (hb : e.borrows = []) (bs : List Block) : e.For v bs :=
  ⟨he, fun b h => by rw [hb] at h; cases h⟩

theorem EVal.For.single {e : EVal} {v : Val} {off len unit : Nat} (he : e.erase = v)
    (hb : e.borrows = [⟨off, len, unit⟩]) : e.For v [⟨off, len, unit⟩] :=
  ⟨he, fun x hx => by rw [hb] at hx; rw [List.mem_singleton.mp hx]; exact List.mem_singleton.mpr rfl⟩

theorem EVal.zeroRef_for {t : Ty} {v : Val} {off : Nat} (hrt : MemRT t v) :
    (EVal.zeroRef t v off).For v [⟨off, (t.toMem v).length, t.maxSizeOf⟩] := by
  unfold EVal.zeroRef
  split
  · exact .noBorrow rfl rfl _
  · rw [hrt.1]; exact .single rfl rfl

theorem eraseList_length : ∀ (es : List EVal), (EVal.eraseList es).length = es.length
  | [] => rfl
  | e :: es => by simp [EVal.eraseList, eraseList_length es]

theorem EVal.ForList.nil {bs : List Block} : EVal.ForList [] [] bs :=
  ⟨rfl, fun _ h => by simp [EVal.borrowsList] at h⟩

theorem EVal.For.cons {e : EVal} {v : Val} {es : List EVal} {vs : List Val} {bs₁ bs₂ : List Block}
    (h : e.For v bs₁) (hs : EVal.ForList es vs bs₂) : EVal.ForList (e :: es) (v :: vs) (bs₁ ++ bs₂) := by
  refine ⟨by simp only [EVal.eraseList, h.1, hs.1], fun b hb => ?_⟩
  simp only [EVal.borrowsList, List.mem_append] at hb ⊢
  exact hb.imp (h.2 b) (hs.2 b)

theorem EVal.For.one {e : EVal} {v : Val} {bs : List Block} (h : e.For v bs) : EVal.ForList [e] [v] bs := by
  have := h.cons (EVal.ForList.nil (bs := [])); rwa [List.append_nil] at this

theorem EVal.ForList.seq {es : List EVal} {vs : List Val} {bs : List Block} (h : EVal.ForList es vs bs) :
    (EVal.seq es).For (.seq vs) bs := ⟨by simp only [EVal.erase, h.1], by simpa only [EVal.borrows] using h.2⟩

theorem EVal.ForList.record {es : List EVal} {vs : List Val} {bs : List Block} (h : EVal.ForList es vs bs) :
    (EVal.record es).For (.record vs) bs := ⟨by simp only [EVal.erase, h.1], by simpa only [EVal.borrows] using h.2⟩

theorem EVal.ForList.variant {es : List EVal} {vs : List Val} {bs : List Block} (h : EVal.ForList es vs bs) (i : Nat) :
    (EVal.variant i es).For (.variant i vs) bs := ⟨by simp only [EVal.erase, h.1], by simpa only [EVal.borrows] using h.2⟩

theorem Prim.specEps (base : Nat) (p : Prim) (n : Nat) (h : p.wt n = true) (pos : Nat) :
    Spec (.slice base) (fun d => p.decEps d pos) (leBytes p.size n) pos [] (.bits n) where
  ok _ rest := by rw [Prim.framedEps p n h pos rest, leBytes_length]
  mis ha := absurd (AlignedAll_nil _) ha
  short q hq := by rw [Prim.prefix_eps p n q pos hq]; exact Short.panic

/-- The ε-copy reader of `t` where the writer wrote `v`. -/
def Ty.EpsSpec (base : Nat) (t : Ty) (v : Val) : Prop :=
  ∀ pos, ∃ e, Spec (.slice base) (fun d => t.decEps base d pos) (t.enc v pos) pos (t.blocks v pos) e
    ∧ e.For v (t.blocks v pos)

def Ty.EpsSpecList (base : Nat) (t : Ty) (vs : List Val) : Prop :=
  ∀ pos, ∃ es, Spec (.slice base) (fun d => decMany (t.decEps base) vs.length d pos) (Ty.encList t vs pos) pos
      (Ty.blocksList t vs pos) es
    ∧ EVal.ForList es vs (Ty.blocksList t vs pos)

def Fields.EpsSpec (base : Nat) (f : Fields) (vs : List Val) : Prop :=
  ∀ pos, ∃ es, Spec (.slice base) (fun d => f.decEps base d pos) (f.enc vs pos) pos (f.blocks vs pos) es
    ∧ EVal.ForList es vs (f.blocks vs pos)

def Variants.EpsSpec (base : Nat) (V : Variants) (i : Nat) (vals : List Val) : Prop :=
  ∀ orig pos, ∃ e, Spec (.slice base) (fun d => V.decEps base orig i d pos) (V.enc i vals pos) pos
      (V.blocks i vals pos) e
    ∧ e.For (.variant orig vals) (V.blocks i vals pos)

/-- A string: `deserialize_eps_slice_zero::<u8>` over its bytes (the unit is 1, so there is no padding), taken
    as a `&str`. -/
theorem Spec.decEpsStr (base : Nat) (b : B) (pos : Nat) (hl : b.length < 2 ^ 63) :
    Spec (.slice base)
      (fun d => (Eps.decEpsSliceZero base (.prim (.int .u8)) d pos).bind
        fun ((off, b, _), d, pos) => .ok (EVal.bStr off b, d, pos))
      (leBytes 8 b.length ++ b) pos [⟨pos + 8, b.length, 1⟩] (.bStr (pos + 8) b) := by
  have hp : pad (pos + 8) (Ty.prim (.int .u8)).maxSizeOf = 0 := pad_one _
  have := Spec.decEpsSliceBytes base (.prim (.int .u8)) b.length b pos (Nat.mul_one _).symm hl
    (show b.length * 1 < 2 ^ 63 by omega)
  rw [hp] at this
  exact this.map fun _ _ => rfl

theorem Ty.EpsSpec.vec {base : Nat} {t : Ty} {vs : List Val} (ht : t.wf = true) (hwt : Ty.wtList t vs = true)
    (hl : vs.length < 2 ^ 63) (hb : vs.length * t.sizeOf < 2 ^ 63) (ih : Ty.EpsSpecList base t vs) :
    Ty.EpsSpec base (.vec t) (.seq vs) := fun pos => by
  unfold Ty.enc Ty.blocks Ty.decEps Ty.encSeq Ty.blocksSeq
  by_cases hz : t.isZC = true
  · rw [if_pos hz, if_pos hz]
    have hrt := fun v hv => Ty.memRT t hz ht v (wtList_iff.mp hwt v hv)
    refine ⟨.bSlice (pos + 8 + pad (pos + 8) t.maxSizeOf) t vs,
      Spec.ite_pos hz ((Spec.decEpsSliceZero base t vs pos hrt hl hb).map fun _ _ => rfl), ?_⟩
    rw [(fromMemList_toMemList t vs hrt).1]; exact .single rfl rfl
  · rw [if_neg hz, if_neg hz]
    obtain ⟨es, hs, hf⟩ := ih (pos + 8)
    exact ⟨.seq es, Spec.ite_neg hz (Spec.word (w := 8) (n := vs.length) (by omega) (hs.map fun _ _ => rfl)), hf.seq⟩

theorem Ty.EpsSpec.zeroAdt {base : Nat} {mt : AdtMeta} {vs : Variants} {v : Val} (hT : (Ty.adt mt vs).wf = true)
    (hv : (Ty.adt mt vs).wt v = true) (hz : mt.zero = true) : Ty.EpsSpec base (.adt mt vs) v := fun pos => by
  have hrt := Ty.memRT _ (Ty.isZC_adt hT hz) hT v hv
  have he := Ty.enc_blocks_zeroAdt hz hv pos
  rw [he.1, he.2]
  exact ⟨_, (Spec.decEpsZero base _ v pos hrt).congr (fun d => Ty.decEps_adt_zero base mt vs d pos hz) rfl rfl,
    EVal.zeroRef_for hrt⟩

theorem Ty.epsSpec_cases (base : Nat) :
    Ty.WtCases (Ty.EpsSpec base) (Ty.EpsSpecList base) (Fields.EpsSpec base) (Variants.EpsSpec base) where
  unit pos := by
    unfold Ty.enc Ty.blocks Ty.decEps Prim.decEps
    exact ⟨.unit, (Spec.pure _ _ _).map fun _ _ => rfl, .noBorrow rfl rfl _⟩
  bits p n h pos := by
    unfold Ty.enc Ty.blocks Ty.decEps
    exact ⟨.bits n, (Prim.specEps base p n h pos).map fun _ _ => rfl, .noBorrow rfl rfl _⟩
  phantom t pos := by
    unfold Ty.enc Ty.blocks Ty.decEps; exact ⟨.unit, Spec.pure _ _ _, .noBorrow rfl rfl _⟩
  string b _ hl pos := by
    unfold Ty.enc Ty.blocks Ty.decEps; exact ⟨_, Spec.decEpsStr base b pos hl, .single rfl rfl⟩
  boxStr b _ hl pos := by
    unfold Ty.enc Ty.blocks Ty.decEps; exact ⟨_, Spec.decEpsStr base b pos hl, .single rfl rfl⟩
  vec t vs ht _ hwt hl hb ih := Ty.EpsSpec.vec ht hwt hl hb ih
  boxSlice t vs ht _ hwt hl hb ih pos := by
    have := Ty.EpsSpec.vec ht hwt hl hb ih pos
    unfold Ty.enc Ty.blocks Ty.decEps at this ⊢
    exact this
  array t vs _ _ ht hwt ih pos := by
    unfold Ty.enc Ty.blocks Ty.decEps
    by_cases hz : t.isZC = true
    · rw [if_pos hz, if_pos hz]
      have hrt := fun v hv => Ty.memRT t hz ht v (wtList_iff.mp hwt v hv)
      have hlen := (fromMemList_toMemList t vs hrt).1
      refine ⟨.bRef (pos + pad pos t.maxSizeOf) (.array t vs.length) (.seq vs),
        Spec.ite_pos hz (Spec.align _ _ ((Spec.takeOrPanic base _ _ hlen).map fun _ _ => ?_)), ?_⟩
      · simp only [fromMemList_toMemList_self t vs hrt]
      · rw [hlen]; exact .single rfl rfl
    · rw [if_neg hz, if_neg hz]
      obtain ⟨es, hs, hf⟩ := ih pos
      exact ⟨.seq es, Spec.ite_neg hz (hs.map fun _ _ => rfl), hf.seq⟩
  tuple t vs hT hv _ _ _ pos := by
    unfold Ty.enc Ty.blocks Ty.decEps
    have hrt := Ty.memRT _ (Ty.isZC_tuple hT) hT _ hv
    -- The two facts speak of `(Ty.tuple t _).maxSizeOf` and `(Ty.tuple t _).toMem (.seq vs)` where the clauses
    -- have `t.maxSizeOf` and `Ty.toMemList t vs`; paired, they are rewritten together.
    have := And.intro (Spec.decEpsZero base (.tuple t vs.length) (.seq vs) pos hrt)
      (EVal.zeroRef_for (off := pos + pad pos t.maxSizeOf) hrt)
    simp only [Ty.maxSizeOf, Ty.toMem] at this
    exact ⟨_, this⟩
  -- The sums: the equations of the clauses (see `Ty.fullSpec_cases`).
  none t pos := by
    simp only [Ty.enc, Ty.blocks]; unfold Ty.decEps
    exact ⟨.variant 0 [], Spec.tag 0 rfl (Spec.pure _ _ _), .noBorrow rfl rfl _⟩
  some t x _ _ ih pos := by
    simp only [Ty.enc, Ty.blocks]; unfold Ty.decEps
    obtain ⟨e, hs, hf⟩ := ih (pos + 1)
    exact ⟨.variant 1 [e], Spec.tag 1 rfl (hs.map fun _ _ => rfl), hf.one.variant 1⟩
  unbounded t pos := by
    simp only [Ty.enc, Ty.blocks]; unfold Ty.decEps
    exact ⟨.variant 0 [], Spec.tag 0 rfl (Spec.pure _ _ _), .noBorrow rfl rfl _⟩
  included t x _ _ ih pos := by
    simp only [Ty.enc, Ty.blocks]; unfold Ty.decEps
    obtain ⟨e, hs, hf⟩ := ih (pos + 1)
    exact ⟨.variant 1 [e], Spec.tag 1 rfl (hs.map fun _ _ => rfl), hf.one.variant 1⟩
  excluded t x _ _ ih pos := by
    simp only [Ty.enc, Ty.blocks]; unfold Ty.decEps
    obtain ⟨e, hs, hf⟩ := ih (pos + 1)
    exact ⟨.variant 2 [e], Spec.tag 2 rfl (hs.map fun _ _ => rfl), hf.one.variant 2⟩
  brk b c x _ _ ih pos := by
    simp only [Ty.enc, Ty.blocks]; unfold Ty.decEps
    obtain ⟨e, hs, hf⟩ := ih (pos + 1)
    exact ⟨.variant 0 [e], Spec.tag 0 rfl (hs.map fun _ _ => rfl), hf.one.variant 0⟩
  cont b c x _ _ ih pos := by
    simp only [Ty.enc, Ty.blocks]; unfold Ty.decEps
    obtain ⟨e, hs, hf⟩ := ih (pos + 1)
    exact ⟨.variant 1 [e], Spec.tag 1 rfl (hs.map fun _ _ => rfl), hf.one.variant 1⟩
  range t a b _ _ _ _ iha ihb pos := by
    unfold Ty.enc Ty.blocks Ty.decEps
    obtain ⟨e₁, h₁, f₁⟩ := iha pos
    obtain ⟨e₂, h₂, f₂⟩ := ihb (pos + (t.enc a pos).length)
    exact ⟨.record [e₁, e₂], h₁.bind rfl (h₂.map fun _ _ => rfl), (f₁.cons f₂.one).record⟩
  incl t a b _ _ _ _ iha ihb pos := by
    unfold Ty.enc Ty.blocks Ty.decEps
    rw [List.append_assoc]
    obtain ⟨e₁, h₁, f₁⟩ := iha pos
    obtain ⟨e₂, h₂, f₂⟩ := ihb (pos + (t.enc a pos).length)
    exact ⟨.record [e₁, e₂], h₁.bind rfl (h₂.bindL rfl (Spec.tag 0 rfl (Spec.pure _ _ _))), (f₁.cons f₂.one).record⟩
  rfrom t a _ _ _ ih pos := by
    unfold Ty.enc Ty.blocks Ty.decEps
    obtain ⟨e, hs, hf⟩ := ih pos
    exact ⟨.record [e], hs.map fun _ _ => rfl, hf.one.record⟩
  rto t a _ _ _ ih pos := by
    unfold Ty.enc Ty.blocks Ty.decEps
    obtain ⟨e, hs, hf⟩ := ih pos
    exact ⟨.record [e], hs.map fun _ _ => rfl, hf.one.record⟩
  toIncl t a _ _ _ ih pos := by
    unfold Ty.enc Ty.blocks Ty.decEps
    obtain ⟨e, hs, hf⟩ := ih pos
    exact ⟨.record [e], hs.map fun _ _ => rfl, hf.one.record⟩
  rangeFull pos := by
    unfold Ty.enc Ty.blocks Ty.decEps; exact ⟨.record [], Spec.pure _ _ _, .noBorrow rfl rfl _⟩
  struct mt n fds fs hT hv he _ _ ih := by
    by_cases hz : mt.zero = true
    · exact Ty.EpsSpec.zeroAdt hT hv hz
    · intro pos
      unfold Ty.enc Ty.blocks Ty.decEps
      rw [if_neg hz, if_neg hz]
      obtain ⟨es, hs, hf⟩ := ih pos
      exact ⟨.record es, Spec.ite_neg hz (Spec.ite_neg (ne_true_of_eq_false he) (hs.map fun _ _ => rfl)), hf.record⟩
  enum mt vs i fs hT hv he _ hlen hi ih := by
    by_cases hz : mt.zero = true
    · exact Ty.EpsSpec.zeroAdt hT hv hz
    · intro pos
      have hzf : mt.zero = false := eq_false_of_ne_true hz
      have hlt : i < 2 ^ (8 * 8) := Nat.lt_trans (Variants.wt_lt vs i fs hi) hlen
      rw [Ty.blocks_adt_enum mt vs i fs pos hzf, Ty.enc_adt_enum mt vs i fs pos hzf]
      obtain ⟨e, hs, hf⟩ := ih i (pos + 8)
      exact ⟨e, (Spec.word hlt hs).congr
        (fun d => Ty.decEps_adt_enum base mt vs d pos hzf he) rfl rfl, hf⟩
  nil t pos := by unfold Ty.encList Ty.blocksList; exact ⟨[], Spec.pure _ _ _, .nil⟩
  cons t v vs _ _ _ ih ihs pos := by
    unfold Ty.encList Ty.blocksList
    obtain ⟨e, h₁, f₁⟩ := ih pos
    obtain ⟨es, h₂, f₂⟩ := ihs (pos + (t.enc v pos).length)
    exact ⟨e :: es, h₁.bind rfl (h₂.map fun _ _ => rfl), f₁.cons f₂⟩
  fnil pos := by unfold Fields.enc Fields.blocks Fields.decEps; exact ⟨[], Spec.pure _ _ _, .nil⟩
  fcons n viaEps t r v vs ht _ hv _ ih ihr pos := by
    unfold Fields.enc Fields.blocks Fields.decEps
    obtain ⟨es, h₂, f₂⟩ := ihr (pos + (t.enc v pos).length)
    cases viaEps with
    | true =>
      obtain ⟨e, h₁, f₁⟩ := ih pos
      exact ⟨e :: es, (Spec.ite_pos rfl h₁).bind rfl (h₂.map fun _ _ => rfl), f₁.cons f₂⟩
    | false =>
      have h₁ := (Ty.fullSpec (.slice base)).ty t ht v hv pos
      exact ⟨.full v :: es,
        (Spec.ite_neg Bool.false_ne_true (h₁.map (b := EVal.full v) fun _ _ => rfl)).bind rfl (h₂.map fun _ _ => rfl),
        (EVal.For.noBorrow rfl rfl _).cons f₂⟩
  vzero n fs r vals _ _ ih orig pos := by
    unfold Variants.enc Variants.blocks Variants.decEps
    obtain ⟨es, hs, hf⟩ := ih pos
    exact ⟨.variant orig es, hs.map fun _ _ => rfl, hf.variant orig⟩
  vsucc n fs r i vals _ _ ih orig pos := by
    unfold Variants.enc Variants.blocks Variants.decEps; exact ih orig pos

/-- The ε-copy reader meets `Spec` wherever the writer wrote a well-typed value. -/
theorem Ty.epsSpec (base : Nat) :
    Ty.WtAll (Ty.EpsSpec base) (Ty.EpsSpecList base) (Fields.EpsSpec base) (Variants.EpsSpec base) :=
  Ty.wt_induct (Ty.epsSpec_cases base)

end Eps
