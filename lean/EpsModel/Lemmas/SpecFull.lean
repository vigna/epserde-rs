/-
  The full-copy reader on the writer's output, for both implementations of `ReadWithPos`: it
  satisfies `Spec` at every well-typed value of every well-formed type.
-/
import EpsModel.Lemmas.Spec
import EpsModel.Lemmas.WtInduct
namespace Eps

theorem Prim.specFull (m : Mode) (p : Prim) (n : Nat) (h : p.wt n = true) (pos : Nat) :
    Spec m (fun d => p.decFull d pos) (leBytes p.size n) pos [] (.bits n) where
  ok _ rest := by rw [Prim.framed p n h pos rest, leBytes_length]
  mis ha := absurd (AlignedAll_nil m) ha
  short q hq := by rw [Prim.prefix_full p n q pos hq]; exact Short.readError

/-- The full-copy reader of `t` where the writer wrote `v`. -/
def Ty.FullSpec (m : Mode) (t : Ty) (v : Val) : Prop :=
  ∀ pos, Spec m (fun d => t.decFull m d pos) (t.enc v pos) pos (t.blocks v pos) v

/-- The item loop where the writer wrote the items one after the other. -/
def Ty.FullSpecList (m : Mode) (t : Ty) (vs : List Val) : Prop :=
  ∀ pos, Spec m (fun d => decMany (t.decFull m) vs.length d pos) (Ty.encList t vs pos) pos (Ty.blocksList t vs pos) vs

def Fields.FullSpec (m : Mode) (f : Fields) (vs : List Val) : Prop :=
  ∀ pos, Spec m (fun d => f.decFull m d pos) (f.enc vs pos) pos (f.blocks vs pos) vs

def Variants.FullSpec (m : Mode) (V : Variants) (i : Nat) (vals : List Val) : Prop :=
  ∀ orig pos, Spec m (fun d => V.decFull m orig i d pos) (V.enc i vals pos) pos (V.blocks i vals pos) (.variant orig vals)

/-- Vectors: `serialize_slice_zero` / `serialize_slice_deep` against their readers. -/
theorem Ty.FullSpec.vec {m : Mode} {t : Ty} {vs : List Val} (ht : t.wf = true) (hwt : Ty.wtList t vs = true)
    (hl : vs.length < 2 ^ 63) (hb : vs.length * t.sizeOf < 2 ^ 63) (ih : Ty.FullSpecList m t vs) :
    Ty.FullSpec m (.vec t) (.seq vs) := fun pos => by
  unfold Ty.enc Ty.blocks Ty.decFull Ty.encSeq Ty.blocksSeq
  by_cases hz : t.isZC = true
  · rw [if_pos hz, if_pos hz]
    exact Spec.ite_pos hz ((Spec.decFullVecZero m t vs pos
      (fun v hv => Ty.memRT t hz ht v (wtList_iff.mp hwt v hv)) hl hb).map fun _ _ => rfl)
  · rw [if_neg hz, if_neg hz]
    exact Spec.ite_neg hz (Spec.word (w := 8) (n := vs.length) (by omega) ((ih _).map fun _ _ => rfl))

/-- A zero-copy structure or enum: one block. -/
theorem Ty.FullSpec.zeroAdt {m : Mode} {mt : AdtMeta} {vs : Variants} {v : Val} (hT : (Ty.adt mt vs).wf = true)
    (hv : (Ty.adt mt vs).wt v = true) (hz : mt.zero = true) : Ty.FullSpec m (.adt mt vs) v := fun pos => by
  have he := Ty.enc_blocks_zeroAdt hz hv pos
  exact (Spec.decFullZero m _ v pos (Ty.memRT _ (Ty.isZC_adt hT hz) hT v hv)).congr
    (fun d => Ty.decFull_adt_zero m mt vs d pos hz) he.1 he.2

theorem Ty.fullSpec_cases (m : Mode) :
    Ty.WtCases (Ty.FullSpec m) (Ty.FullSpecList m) (Fields.FullSpec m) (Variants.FullSpec m) where
  unit pos := by unfold Ty.enc Ty.blocks Ty.decFull Prim.decFull; exact Spec.pure _ _ _
  bits p n h pos := by unfold Ty.enc Ty.blocks Ty.decFull; exact Prim.specFull m p n h pos
  phantom t pos := by unfold Ty.enc Ty.blocks Ty.decFull; exact Spec.pure _ _ _
  string b hu hl pos := by unfold Ty.enc Ty.blocks Ty.decFull; exact (Spec.decFullStr m b pos hu hl).unit1 _ _
  boxStr b hu hl pos := by unfold Ty.enc Ty.blocks Ty.decFull; exact (Spec.decFullStr m b pos hu hl).unit1 _ _
  vec t vs ht _ hwt hl hb ih := Ty.FullSpec.vec ht hwt hl hb ih
  boxSlice t vs ht _ hwt hl hb ih pos := by
    have := Ty.FullSpec.vec ht hwt hl hb ih pos
    unfold Ty.enc Ty.blocks Ty.decFull at this ⊢
    exact this
  array t vs hT hv _ _ ih pos := by
    unfold Ty.enc Ty.blocks Ty.decFull
    by_cases hz : t.isZC = true
    · rw [if_pos hz, if_pos hz]
      have := Spec.decFullZero m (.array t vs.length) (.seq vs) pos
        (Ty.memRT _ (by simpa only [Ty.isZC] using hz) hT _ hv)
      simp only [Ty.maxSizeOf, Ty.toMem] at this
      exact Spec.ite_pos hz this
    · rw [if_neg hz, if_neg hz]
      exact Spec.ite_neg hz ((ih pos).map fun _ _ => rfl)
  tuple t vs hT hv _ _ _ pos := by
    unfold Ty.enc Ty.blocks Ty.decFull
    have := Spec.decFullZero m (.tuple t vs.length) (.seq vs) pos (Ty.memRT _ (Ty.isZC_tuple hT) hT _ hv)
    simp only [Ty.maxSizeOf, Ty.toMem] at this
    exact this
  -- The sums: the equations of the clauses (`simp only`) instead of `unfold`, which leaves the whole `match` on
  -- (type, value) in the goal: when the value holds a numeral (`.variant 1 [x]`), every later step that walks
  -- through that `match` is slow. The reader, whose `match` is on the type alone, sits under a binder: `unfold`.
  none t pos := by simp only [Ty.enc, Ty.blocks]; unfold Ty.decFull; exact Spec.tag 0 rfl (Spec.pure _ _ _)
  some t x _ _ ih pos := by
    simp only [Ty.enc, Ty.blocks]; unfold Ty.decFull; exact Spec.tag 1 rfl ((ih _).map fun _ _ => rfl)
  unbounded t pos := by simp only [Ty.enc, Ty.blocks]; unfold Ty.decFull; exact Spec.tag 0 rfl (Spec.pure _ _ _)
  included t x _ _ ih pos := by
    simp only [Ty.enc, Ty.blocks]; unfold Ty.decFull; exact Spec.tag 1 rfl ((ih _).map fun _ _ => rfl)
  excluded t x _ _ ih pos := by
    simp only [Ty.enc, Ty.blocks]; unfold Ty.decFull; exact Spec.tag 2 rfl ((ih _).map fun _ _ => rfl)
  brk b c x _ _ ih pos := by
    simp only [Ty.enc, Ty.blocks]; unfold Ty.decFull; exact Spec.tag 0 rfl ((ih _).map fun _ _ => rfl)
  cont b c x _ _ ih pos := by
    simp only [Ty.enc, Ty.blocks]; unfold Ty.decFull; exact Spec.tag 1 rfl ((ih _).map fun _ _ => rfl)
  range t a b _ _ _ _ iha ihb pos := by
    unfold Ty.enc Ty.blocks Ty.decFull
    exact (iha pos).bind rfl ((ihb _).map fun _ _ => rfl)
  incl t a b _ _ _ _ iha ihb pos := by
    unfold Ty.enc Ty.blocks Ty.decFull
    rw [List.append_assoc]
    exact (iha pos).bind rfl ((ihb _).bindL rfl (Spec.tag 0 rfl (Spec.pure _ _ _)))
  rfrom t a _ _ _ ih pos := by unfold Ty.enc Ty.blocks Ty.decFull; exact (ih pos).map fun _ _ => rfl
  rto t a _ _ _ ih pos := by unfold Ty.enc Ty.blocks Ty.decFull; exact (ih pos).map fun _ _ => rfl
  toIncl t a _ _ _ ih pos := by unfold Ty.enc Ty.blocks Ty.decFull; exact (ih pos).map fun _ _ => rfl
  rangeFull pos := by unfold Ty.enc Ty.blocks Ty.decFull; exact Spec.pure _ _ _
  struct mt n fds fs hT hv he _ _ ih := by
    by_cases hz : mt.zero = true
    · exact Ty.FullSpec.zeroAdt hT hv hz
    · intro pos
      unfold Ty.enc Ty.blocks Ty.decFull
      rw [if_neg hz, if_neg hz]
      exact Spec.ite_neg hz (Spec.ite_neg (ne_true_of_eq_false he) ((ih pos).map fun _ _ => rfl))
  enum mt vs i fs hT hv he _ hlen hi ih := by
    by_cases hz : mt.zero = true
    · exact Ty.FullSpec.zeroAdt hT hv hz
    · intro pos
      -- the variant list is a variable here: the clauses come from their one-piece equations (Clauses.lean)
      have hzf : mt.zero = false := eq_false_of_ne_true hz
      have hlt : i < 2 ^ (8 * 8) := Nat.lt_trans (Variants.wt_lt vs i fs hi) hlen
      rw [Ty.blocks_adt_enum mt vs i fs pos hzf, Ty.enc_adt_enum mt vs i fs pos hzf]
      exact (Spec.word hlt (ih i _)).congr (fun d => Ty.decFull_adt_enum m mt vs d pos hzf he) rfl rfl
  nil t pos := by unfold Ty.encList Ty.blocksList; exact Spec.pure _ _ _
  cons t v vs _ _ _ ih ihs pos := by
    unfold Ty.encList Ty.blocksList
    exact (ih pos).bind rfl ((ihs _).map fun _ _ => rfl)
  fnil pos := by unfold Fields.enc Fields.blocks Fields.decFull; exact Spec.pure _ _ _
  fcons n e t r v vs _ _ _ _ ih ihr pos := by
    unfold Fields.enc Fields.blocks Fields.decFull
    exact (ih pos).bind rfl ((ihr _).map fun _ _ => rfl)
  vzero n fs r vals _ _ ih orig pos := by
    unfold Variants.enc Variants.blocks Variants.decFull; exact (ih pos).map fun _ _ => rfl
  vsucc n fs r i vals _ _ ih orig pos := by
    unfold Variants.enc Variants.blocks Variants.decFull; exact ih orig pos

/-- The full-copy reader meets `Spec` wherever the writer wrote a well-typed value. -/
theorem Ty.fullSpec (m : Mode) :
    Ty.WtAll (Ty.FullSpec m) (Ty.FullSpecList m) (Fields.FullSpec m) (Variants.FullSpec m) :=
  Ty.wt_induct (Ty.fullSpec_cases m)

end Eps
