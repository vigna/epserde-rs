/-
  The consequences of `Ty.fullSpec` / `Ty.epsSpec` in the form the property files use them.
  Framing (`ok`): reading what the writer wrote returns the value, leaves the rest of the stream
  untouched and advances by exactly the bytes written — on a slice provided every block is on its
  unit; the ε-copy result describes the value and borrows only at the writer's blocks.
  Misplacement (`mis`): a block off its unit gives `AlignmentError`, never a value.
  Truncation (`short`): a strict prefix never yields a value; the generic reader says `ReadError`.
  At the end, the shape of the ε-copy result kind by kind: what is borrowed, and from which offset.
-/
import EpsModel.Lemmas.SpecEps
namespace Eps

theorem Ty.framedFull (m : Mode) (t : Ty) (hw : t.wf = true) (v : Val) (hv : t.wt v = true) (pos : Nat) (rest : B)
    (ha : AlignedAll m (t.blocks v pos)) :
    t.decFull m (t.enc v pos ++ rest) pos = .ok (v, rest, pos + (t.enc v pos).length) :=
  ((Ty.fullSpec m).ty t hw v hv pos).ok ha rest

/-- A loop over the elements the writer wrote one after the other. -/
theorem Ty.framedFullList (m : Mode) (t : Ty) (hw : t.wf = true) (vs : List Val) (hv : ∀ v ∈ vs, t.wt v = true)
    (pos : Nat) (rest : B) (ha : AlignedAll m (Ty.blocksList t vs pos)) :
    decMany (t.decFull m) vs.length (Ty.encList t vs pos ++ rest) pos
      = .ok (vs, rest, pos + (Ty.encList t vs pos).length) :=
  ((Ty.fullSpec m).list t hw vs (wtList_iff.mpr hv) pos).ok ha rest

theorem Fields.framedFull (m : Mode) : ∀ (f : Fields), f.wf = true → ∀ vs, f.wt vs = true →
    ∀ pos rest, AlignedAll m (f.blocks vs pos) →
      f.decFull m (f.enc vs pos ++ rest) pos = .ok (vs, rest, pos + (f.enc vs pos).length) :=
  fun f hw vs hv pos rest ha => ((Ty.fullSpec m).fields f hw vs hv pos).ok ha rest

theorem Variants.framedFull (m : Mode) : ∀ (vs : Variants), vs.wf = true → ∀ i vals, vs.wt i vals = true →
    ∀ orig pos rest, AlignedAll m (vs.blocks i vals pos) →
      vs.decFull m orig i (vs.enc i vals pos ++ rest) pos = .ok (.variant orig vals, rest, pos + (vs.enc i vals pos).length) :=
  fun V hw i vals hv orig pos rest ha => ((Ty.fullSpec m).variants V hw i vals hv orig pos).ok ha rest

/-- Statement for one (type, value) pair. -/
def EpsOK (base : Nat) (t : Ty) (v : Val) : Prop :=
  ∀ pos rest, AlignedAll (.slice base) (t.blocks v pos) →
    ∃ e, t.decEps base (t.enc v pos ++ rest) pos = .ok (e, rest, pos + (t.enc v pos).length)
      ∧ e.erase = v ∧ ∀ b ∈ e.borrows, b.toBlock ∈ t.blocks v pos

/-- sum types with a one-byte tag and one payload: the step after the tag -/
theorem sum_step (base : Nat) (t : Ty) (x : Val) (tag : UInt8) (i : Nat) (pos : Nat) (rest : B)
    (ih : EpsOK base t x) (ha : AlignedAll (.slice base) (t.blocks x (pos + 1)))
    (k : EVal → RRes EVal)
    (hk : ∀ e d p, k e = .ok (.variant i [e], d, p) → True) :
    ∃ e, (t.decEps base (t.enc x (pos + 1) ++ rest) (pos + 1)).bind
          (fun (r : EVal × B × Nat) => (.ok (EVal.variant i [r.1], r.2.1, r.2.2) : RRes EVal))
        = .ok (e, rest, pos + (1 + (t.enc x (pos + 1)).length))
      ∧ e.erase = .variant i [x] ∧ ∀ b ∈ e.borrows, b.toBlock ∈ t.blocks x (pos + 1) := by
  obtain ⟨e, he, hf⟩ := ih (pos + 1) rest ha
  exact ⟨.variant i [e], by rw [he, Res.bind_ok, Nat.add_assoc], (EVal.For.one hf).variant i⟩

theorem Ty.framedEps (base : Nat) (t : Ty) (hw : t.wf = true) (v : Val) (hv : t.wt v = true) : EpsOK base t v :=
  fun pos rest ha =>
    let ⟨e, hs, hf⟩ := (Ty.epsSpec base).ty t hw v hv pos
    ⟨e, hs.ok ha rest, hf⟩

/-- A loop of ε-copy reads over the elements the writer wrote one after the other. -/
theorem Ty.framedEpsList (base : Nat) (t : Ty) (hw : t.wf = true) (vs : List Val) (hv : ∀ v ∈ vs, t.wt v = true)
    (pos : Nat) (rest : B) (ha : AlignedAll (.slice base) (Ty.blocksList t vs pos)) :
    ∃ es, decMany (t.decEps base) vs.length (Ty.encList t vs pos ++ rest) pos
        = .ok (es, rest, pos + (Ty.encList t vs pos).length)
      ∧ EVal.eraseList es = vs ∧ ∀ b ∈ EVal.borrowsList es, b.toBlock ∈ Ty.blocksList t vs pos :=
  let ⟨es, hs, hf⟩ := (Ty.epsSpec base).list t hw vs (wtList_iff.mpr hv) pos
  ⟨es, hs.ok ha rest, hf⟩

theorem Fields.framedEps (base : Nat) : ∀ (f : Fields), f.wf = true → ∀ vs, f.wt vs = true →
    ∀ pos rest, AlignedAll (.slice base) (f.blocks vs pos) →
      ∃ es, f.decEps base (f.enc vs pos ++ rest) pos = .ok (es, rest, pos + (f.enc vs pos).length)
        ∧ EVal.eraseList es = vs ∧ ∀ b ∈ EVal.borrowsList es, b.toBlock ∈ f.blocks vs pos :=
  fun f hw vs hv pos rest ha =>
    let ⟨es, hs, hf⟩ := (Ty.epsSpec base).fields f hw vs hv pos
    ⟨es, hs.ok ha rest, hf⟩

theorem Variants.framedEps (base : Nat) : ∀ (vs : Variants), vs.wf = true → ∀ i vals, vs.wt i vals = true →
    ∀ orig pos rest, AlignedAll (.slice base) (vs.blocks i vals pos) →
      ∃ e, vs.decEps base orig i (vs.enc i vals pos ++ rest) pos = .ok (e, rest, pos + (vs.enc i vals pos).length)
        ∧ e.erase = .variant orig vals ∧ ∀ b ∈ e.borrows, b.toBlock ∈ vs.blocks i vals pos :=
  fun V hw i vals hv orig pos rest ha =>
    let ⟨e, hs, hf⟩ := (Ty.epsSpec base).variants V hw i vals hv orig pos
    ⟨e, hs.ok ha rest, hf⟩

theorem Ty.mis (base : Nat) (t : Ty) (hw : t.wf = true) (v : Val) (hv : t.wt v = true) :
    (∀ pos rest, ¬ AlignedAll (.slice base) (t.blocks v pos) →
      t.decFull (.slice base) (t.enc v pos ++ rest) pos = .err .alignment) ∧
    (∀ pos rest, ¬ AlignedAll (.slice base) (t.blocks v pos) →
      t.decEps base (t.enc v pos ++ rest) pos = .err .alignment) :=
  ⟨fun pos rest ha => ((Ty.fullSpec (.slice base)).ty t hw v hv pos).mis ha rest,
   fun pos rest ha => let ⟨_, hs, _⟩ := (Ty.epsSpec base).ty t hw v hv pos; hs.mis ha rest⟩

theorem Fields.mis (base : Nat) : ∀ (f : Fields), f.wf = true → ∀ vs, f.wt vs = true →
    (∀ pos rest, ¬ AlignedAll (.slice base) (f.blocks vs pos) →
      f.decFull (.slice base) (f.enc vs pos ++ rest) pos = .err .alignment) ∧
    (∀ pos rest, ¬ AlignedAll (.slice base) (f.blocks vs pos) →
      f.decEps base (f.enc vs pos ++ rest) pos = .err .alignment) :=
  fun f hw vs hv =>
    ⟨fun pos rest ha => ((Ty.fullSpec (.slice base)).fields f hw vs hv pos).mis ha rest,
     fun pos rest ha => let ⟨_, hs, _⟩ := (Ty.epsSpec base).fields f hw vs hv pos; hs.mis ha rest⟩

theorem Variants.mis (base : Nat) : ∀ (vs : Variants), vs.wf = true → ∀ i vals, vs.wt i vals = true →
    (∀ orig pos rest, ¬ AlignedAll (.slice base) (vs.blocks i vals pos) →
      vs.decFull (.slice base) orig i (vs.enc i vals pos ++ rest) pos = .err .alignment) ∧
    (∀ orig pos rest, ¬ AlignedAll (.slice base) (vs.blocks i vals pos) →
      vs.decEps base orig i (vs.enc i vals pos ++ rest) pos = .err .alignment) :=
  fun V hw i vals hv =>
    ⟨fun orig pos rest ha => ((Ty.fullSpec (.slice base)).variants V hw i vals hv orig pos).mis ha rest,
     fun orig pos rest ha => let ⟨_, hs, _⟩ := (Ty.epsSpec base).variants V hw i vals hv orig pos; hs.mis ha rest⟩

theorem Ty.trunc (base : Nat) (t : Ty) (hw : t.wf = true) (v : Val) (hv : t.wt v = true) :
    (∀ pos p, SPre p (t.enc v pos) → t.decFull .reader p pos = .err .readError) ∧
    (∀ pos p, SPre p (t.enc v pos) → NotOk (t.decFull (.slice base) p pos)) ∧
    (∀ pos p, SPre p (t.enc v pos) → NotOk (t.decEps base p pos)) :=
  ⟨fun pos p h => ((Ty.fullSpec .reader).ty t hw v hv pos).short p h,
   fun pos p h => ((Ty.fullSpec (.slice base)).ty t hw v hv pos).short p h,
   fun pos p h => let ⟨_, hs, _⟩ := (Ty.epsSpec base).ty t hw v hv pos; hs.short p h⟩

theorem Fields.trunc (base : Nat) : ∀ (f : Fields), f.wf = true → ∀ vs, f.wt vs = true →
    (∀ pos p, SPre p (f.enc vs pos) → f.decFull .reader p pos = .err .readError) ∧
    (∀ pos p, SPre p (f.enc vs pos) → NotOk (f.decFull (.slice base) p pos)) ∧
    (∀ pos p, SPre p (f.enc vs pos) → NotOk (f.decEps base p pos)) :=
  fun f hw vs hv =>
    ⟨fun pos p h => ((Ty.fullSpec .reader).fields f hw vs hv pos).short p h,
     fun pos p h => ((Ty.fullSpec (.slice base)).fields f hw vs hv pos).short p h,
     fun pos p h => let ⟨_, hs, _⟩ := (Ty.epsSpec base).fields f hw vs hv pos; hs.short p h⟩

theorem Variants.trunc (base : Nat) : ∀ (vs : Variants), vs.wf = true → ∀ i vals, vs.wt i vals = true →
    (∀ orig pos p, SPre p (vs.enc i vals pos) → vs.decFull .reader orig i p pos = .err .readError) ∧
    (∀ orig pos p, SPre p (vs.enc i vals pos) → NotOk (vs.decFull (.slice base) orig i p pos)) ∧
    (∀ orig pos p, SPre p (vs.enc i vals pos) → NotOk (vs.decEps base orig i p pos)) :=
  fun V hw i vals hv =>
    ⟨fun orig pos p h => ((Ty.fullSpec .reader).variants V hw i vals hv orig pos).short p h,
     fun orig pos p h => ((Ty.fullSpec (.slice base)).variants V hw i vals hv orig pos).short p h,
     fun orig pos p h => let ⟨_, hs, _⟩ := (Ty.epsSpec base).variants V hw i vals hv orig pos; hs.short p h⟩

/-- `Vec<T>` / `Box<[T]>` of zero-copy elements ↦ a borrowed slice at the writer's block. -/
theorem eps_vec_zero_shape (base : Nat) (t : Ty) (vs : List Val) (pos : Nat) (rest : B)
    (hz : t.isZC = true) (hw : t.wf = true) (hwt : (Ty.vec t).wt (.seq vs) = true)
    (ha : ModeOK (.slice base) (pos + 8 + pad (pos + 8) t.maxSizeOf) t.maxSizeOf) :
    (Ty.vec t).decEps base ((Ty.vec t).enc (.seq vs) pos ++ rest) pos
      = .ok (.bSlice (pos + 8 + pad (pos + 8) t.maxSizeOf) t vs, rest, pos + ((Ty.vec t).enc (.seq vs) pos).length) := by
  simp only [Ty.wt, Bool.and_eq_true, decide_eq_true_eq] at hwt
  have hrt : ∀ v ∈ vs, MemRT t v := fun v hv => Ty.memRT t hz hw v (wtList_iff.mp hwt.1.1 v hv)
  unfold Ty.decEps
  rw [Ty.enc, Ty.encSeq, if_pos hz, if_pos hz,
    (Spec.decEpsSliceZero base t vs pos hrt hwt.1.2 hwt.2).ok (AlignedAll_one.mpr ha) rest]; rfl

/-- a zero-copy structure ↦ a reference to it at the writer's block (size > 0) -/
theorem eps_struct_zero_shape (base : Nat) (m : AdtMeta) (vs : Variants) (fs : List Val) (pos : Nat) (rest : B)
    (hz : m.zero = true) (hw : (Ty.adt m vs).wf = true) (hwt : (Ty.adt m vs).wt (.record fs) = true)
    (hs : (Ty.adt m vs).sizeOf ≠ 0)
    (ha : ModeOK (.slice base) (pos + pad pos (Ty.adt m vs).maxSizeOf) (Ty.adt m vs).maxSizeOf) :
    (Ty.adt m vs).decEps base ((Ty.adt m vs).enc (.record fs) pos ++ rest) pos
      = .ok (.bRef (pos + pad pos (Ty.adt m vs).maxSizeOf) (.adt m vs) (.record fs), rest,
             pos + ((Ty.adt m vs).enc (.record fs) pos).length) := by
  have hrt := Ty.memRT (.adt m vs) (Ty.isZC_adt hw hz) hw (.record fs) hwt
  rw [Ty.enc_adt_zero m vs fs pos hz, Ty.decEps_adt_zero base m vs _ pos hz,
    (Spec.decEpsZero base _ _ pos hrt).ok (AlignedAll_one.mpr ha) rest,
    EVal.zeroRef, if_neg hs]

/-- primitives stay values -/
theorem eps_prim_shape (base : Nat) (p : Prim) (n : Nat) (h : p.wt n = true) (pos : Nat) (rest : B) :
    (Ty.prim p).decEps base ((Ty.prim p).enc (.bits n) pos ++ rest) pos = .ok (.bits n, rest, pos + p.size) := by
  unfold Ty.enc Ty.decEps
  rw [Prim.framedEps p n h pos rest]; rfl

end Eps
