/-
  The zero-copy blocks of a serialized value: each starts at a stream offset that is a multiple of
  its unit (`blocks_ok`), and lies inside the bytes written for the value (`blocks_in`).

  Facts about `Ty.blocks` are proved by the induction principle Lean derives from its definition
  (`Ty.blocks.mutual_induct_unfolding`): one case per clause, the clause `| _, _, _ => []` included as
  one case, and the five mutually recursive functions at once.
-/
import EpsModel.Blocks
import EpsModel.Lemmas.Units
import EpsModel.Lemmas.Basic
import EpsModel.Lemmas.Clauses
namespace Eps

theorem pad_aligned {pos u : Nat} (hu : IsP2 u) : (pos + pad pos u) % u = 0 := by
  obtain ⟨k, hk, rfl⟩ := hu
  rw [pad_eq_padNat pos k (Nat.le_succ_of_le hk)]
  exact padNat_spec (Nat.two_pow_pos k)

/-- all blocks of a list are aligned in the stream -/
def BlocksOK (bs : List Block) : Prop := ∀ b ∈ bs, b.off % b.unit = 0

theorem BlocksOK_append {a b : List Block} : BlocksOK (a ++ b) ↔ BlocksOK a ∧ BlocksOK b :=
  List.forall_mem_append

theorem BlocksOK_nil : BlocksOK [] := fun _ h => nomatch h

/-- the block of an `align` followed by `write_bytes` -/
theorem BlocksOK_zero (pos len : Nat) {u : Nat} (hu : IsP2 u) : BlocksOK [⟨pos + pad pos u, len, u⟩] :=
  List.forall_mem_singleton.2 (pad_aligned hu)

theorem blocks_ok_all :
    (∀ t v pos, t.wf = true → BlocksOK (Ty.blocks t v pos)) ∧
    (∀ vs i vals pos, vs.wf = true → BlocksOK (Variants.blocks vs i vals pos)) ∧
    (∀ f vs pos, f.wf = true → BlocksOK (Fields.blocks f vs pos)) ∧
    (∀ t vs pos, t.wf = true → BlocksOK (Ty.blocksList t vs pos)) ∧
    (∀ t vs pos, t.wf = true → BlocksOK (Ty.blocksSeq t vs pos)) := by
  apply Ty.blocks.mutual_induct_unfolding
    (motive1 := fun t _ _ bs => t.wf = true → BlocksOK bs)
    (motive2 := fun vs i vals pos _ => vs.wf = true → BlocksOK (Variants.blocks vs i vals pos))
    (motive3 := fun f vs pos _ => f.wf = true → BlocksOK (Fields.blocks f vs pos))
    (motive4 := fun t vs pos _ => t.wf = true → BlocksOK (Ty.blocksList t vs pos))
    (motive5 := fun t vs pos _ => t.wf = true → BlocksOK (Ty.blocksSeq t vs pos))
  -- string, boxStr: unit 1
  iterate 2 (intro b pos _; exact List.forall_mem_singleton.2 (Nat.mod_one _))
  -- vec, boxSlice; sliceRef, serIter
  · intro t vs pos ih hw; exact ih (Ty.wf_vec hw)
  · intro t vs pos ih hw; exact ih (Ty.wf_boxSlice hw)
  iterate 2 (intro t vs pos _ hw; cases hw)
  -- array, tuple
  · intro t n vs pos hz hw; exact BlocksOK_zero _ _ (Ty.unit_p2 hz (Ty.wf_array hw))
  · intro t n vs pos _ ih hw; exact ih (Ty.wf_array hw)
  · intro t n vs pos hw; exact BlocksOK_zero _ _ (Ty.unit_p2 (Ty.wf_tuple hw).2 (Ty.wf_tuple hw).1)
  -- option, bound, controlFlow
  iterate 3 (intro t v pos ih hw; exact ih hw)
  · intro b c v pos ih hw; exact ih (Ty.wf_controlFlow hw).1
  · intro b c v pos ih hw; exact ih (Ty.wf_controlFlow hw).2
  -- ranges
  iterate 2 (intro t a b pos iha ihb hw; exact BlocksOK_append.2 ⟨iha (Ty.wf_range hw).1, ihb (Ty.wf_range hw).1⟩)
  iterate 3 (intro t a pos ih hw; exact ih (Ty.wf_range hw).1)
  -- derived types; every other shape
  · intro m vs fs pos hz hw; exact BlocksOK_zero _ _ (Ty.unit_p2 (Ty.isZC_adt hw hz) hw)
  · intro m fs pos _ name fds ih hw; exact ih (Ty.wf_struct hw)
  · intros; exact BlocksOK_nil
  · intro m vs i fs pos hz hw; exact BlocksOK_zero _ _ (Ty.unit_p2 (Ty.isZC_adt hw hz) hw)
  · intro m vs i fs pos _ ih hw; exact ih (Ty.wf_adt hw)
  · intros; exact BlocksOK_nil
  -- variants
  · intros; rw [Variants.blocks]; exact BlocksOK_nil
  · intro name fs rest vals pos ih hw; rw [Variants.blocks]; exact ih (Variants.wf_cons hw).1
  · intro name fs r i vals pos ih hw; rw [Variants.blocks]; exact ih (Variants.wf_cons hw).2
  -- fields
  · intro name e t r v vs pos ihv ihr hw; rw [Fields.blocks]
    exact BlocksOK_append.2 ⟨ihv (Fields.wf_cons hw).1, ihr (Fields.wf_cons hw).2⟩
  · intro f vs pos h _; rw [Fields.blocks.eq_2 _ _ _ h]; exact BlocksOK_nil
  -- items one after the other
  · intros; rw [Ty.blocksList]; exact BlocksOK_nil
  · intro t v vs pos ihv ihr hw; rw [Ty.blocksList]; exact BlocksOK_append.2 ⟨ihv hw, ihr hw⟩
  -- a length word, then one block or the items
  · intro t vs pos hz hw; rw [Ty.blocksSeq, if_pos hz]; exact BlocksOK_zero _ _ (Ty.unit_p2 hz hw)
  · intro t vs pos hz ih hw; rw [Ty.blocksSeq, if_neg hz]; exact ih hw

theorem Ty.blocks_ok : ∀ (t : Ty), t.wf = true → ∀ v pos, BlocksOK (t.blocks v pos) :=
  fun t hw v pos => blocks_ok_all.1 t v pos hw
theorem Fields.blocks_ok : ∀ (f : Fields), f.wf = true → ∀ vs pos, BlocksOK (f.blocks vs pos) :=
  fun f hw vs pos => blocks_ok_all.2.2.1 f vs pos hw
theorem Variants.blocks_ok : ∀ (vs : Variants), vs.wf = true → ∀ i vals pos, BlocksOK (vs.blocks i vals pos) :=
  fun vs hw i vals pos => blocks_ok_all.2.1 vs i vals pos hw

/-! ### Every block of a serialized value lies inside the bytes written for that value -/

def BlocksIn (bs : List Block) (lo hi : Nat) : Prop := ∀ b ∈ bs, lo ≤ b.off ∧ b.off + b.len ≤ hi

theorem BlocksIn.nil (lo hi : Nat) : BlocksIn [] lo hi := fun _ h => nomatch h

theorem BlocksIn.append {a b : List Block} {lo hi : Nat} (ha : BlocksIn a lo hi) (hb : BlocksIn b lo hi) :
    BlocksIn (a ++ b) lo hi :=
  List.forall_mem_append.2 ⟨ha, hb⟩

theorem BlocksIn.mono {bs : List Block} {lo hi lo' hi' : Nat} (h : BlocksIn bs lo hi) (h1 : lo' ≤ lo) (h2 : hi ≤ hi') :
    BlocksIn bs lo' hi' := fun b hb => ⟨Nat.le_trans h1 (h b hb).1, Nat.le_trans (h b hb).2 h2⟩

theorem BlocksIn.single {off len u lo hi : Nat} (h1 : lo ≤ off) (h2 : off + len ≤ hi) : BlocksIn [⟨off, len, u⟩] lo hi :=
  List.forall_mem_singleton.2 ⟨h1, h2⟩

/-- the block of an `align` followed by `write_bytes` of `b` -/
theorem BlocksIn.zero (pos : Nat) (b : B) (u : Nat) :
    BlocksIn [⟨pos + pad pos u, b.length, u⟩] pos (pos + (zeros (pad pos u) ++ b).length) :=
  .single (Nat.le_add_right _ _) (by rw [List.length_append, zeros_length, Nat.add_assoc]; exact Nat.le_refl _)

/-- behind a header `w` of `k` bytes (a tag or a length) -/
theorem BlocksIn.after (w : B) {k : Nat} (hk : w.length = k) {bs : List Block} {pos : Nat} {e : B}
    (h : BlocksIn bs (pos + k) (pos + k + e.length)) : BlocksIn bs pos (pos + (w ++ e).length) :=
  h.mono (Nat.le_add_right _ _) (by rw [List.length_append, hk, Nat.add_assoc]; exact Nat.le_refl _)

/-- two values one after the other -/
theorem BlocksIn.seq {a b : List Block} {pos : Nat} {x y : B} (ha : BlocksIn a pos (pos + x.length))
    (hb : BlocksIn b (pos + x.length) (pos + x.length + y.length)) : BlocksIn (a ++ b) pos (pos + (x ++ y).length) :=
  .append (ha.mono (Nat.le_refl _) (by rw [List.length_append]; exact Nat.add_le_add_left (Nat.le_add_right _ _) _))
    (hb.after x rfl)

theorem blocks_in_all :
    (∀ t v pos, BlocksIn (Ty.blocks t v pos) pos (pos + (Ty.enc t v pos).length)) ∧
    (∀ vs i vals pos, BlocksIn (Variants.blocks vs i vals pos) pos (pos + (Variants.enc vs i vals pos).length)) ∧
    (∀ f vs pos, BlocksIn (Fields.blocks f vs pos) pos (pos + (Fields.enc f vs pos).length)) ∧
    (∀ t vs pos, BlocksIn (Ty.blocksList t vs pos) pos (pos + (Ty.encList t vs pos).length)) ∧
    (∀ t vs pos, BlocksIn (Ty.blocksSeq t vs pos) pos (pos + (Ty.encSeq t vs pos).length)) := by
  apply Ty.blocks.mutual_induct_unfolding
    (motive1 := fun t v pos bs => BlocksIn bs pos (pos + (Ty.enc t v pos).length))
    (motive2 := fun vs i vals pos _ => BlocksIn (Variants.blocks vs i vals pos) pos (pos + (Variants.enc vs i vals pos).length))
    (motive3 := fun f vs pos _ => BlocksIn (Fields.blocks f vs pos) pos (pos + (Fields.enc f vs pos).length))
    (motive4 := fun t vs pos _ => BlocksIn (Ty.blocksList t vs pos) pos (pos + (Ty.encList t vs pos).length))
    (motive5 := fun t vs pos _ => BlocksIn (Ty.blocksSeq t vs pos) pos (pos + (Ty.encSeq t vs pos).length))
  -- string, boxStr: the length word, then the bytes as one block
  iterate 2
    intro b pos; rw [Ty.enc]
    exact .after _ (leBytes_length 8 _) (.single (Nat.le_refl _) (Nat.le_refl _))
  -- vec, boxSlice, sliceRef, serIter
  iterate 4 (intro t vs pos ih; simpa only [Ty.enc] using ih)
  -- array, tuple
  · intro t n vs pos hz; rw [Ty.enc, if_pos hz]; exact .zero pos _ _
  · intro t n vs pos hz ih; simpa only [Ty.enc, if_neg hz] using ih
  · intro t n vs pos; rw [Ty.enc]; exact .zero pos _ _
  -- option, bound, controlFlow: a tag byte, then the payload. From here on each clause of `Ty.enc` by its own equation
  -- (Clauses.lean): `rw [Ty.enc]` tries the generated equations in order, and is the slower the further down the clause stands
  · intro t v pos ih; rw [Ty.enc_option]; exact ih.after [1] rfl
  · intro t v pos ih; rw [Ty.enc_bound]; exact ih.after [1] rfl
  · intro t v pos ih; rw [Ty.enc_bound]; exact ih.after [2] rfl
  · intro b c v pos ih; rw [Ty.enc_controlFlow]; exact ih.after [0] rfl
  · intro b c v pos ih; rw [Ty.enc_controlFlow]; exact ih.after [1] rfl
  -- ranges
  · intro t a b pos iha ihb; rw [Ty.enc_range]; exact iha.seq ihb
  · intro t a b pos iha ihb; rw [Ty.enc_range]
    exact (iha.seq ihb).mono (Nat.le_refl _) (by simp)
  iterate 3 (intro t a pos ih; rw [Ty.enc_range]; exact ih)
  -- derived types; every other shape
  · intro m vs fs pos hz; rw [Ty.enc_adt_zero _ _ _ _ hz]; exact .zero pos _ _
  · intro m fs pos hz name fds ih; simpa only [Ty.enc_adt, if_neg hz] using ih
  · intros; exact .nil _ _
  · intro m vs i fs pos hz; rw [Ty.enc_adt_zero_variant _ _ _ _ _ hz]; exact .zero pos _ _
  · intro m vs i fs pos hz ih; rw [Ty.enc_adt_enum _ _ _ _ _ (eq_false_of_ne_true hz)]
    exact ih.after _ (leBytes_length 8 i)
  · intros; exact .nil _ _
  -- variants
  · intros; rw [Variants.blocks]; exact .nil _ _
  · intro name fs rest vals pos ih; simpa only [Variants.blocks, Variants.enc] using ih
  · intro name fs r i vals pos ih; simpa only [Variants.blocks, Variants.enc] using ih
  -- fields
  · intro name e t r v vs pos ihv ihr; rw [Fields.blocks, Fields.enc]; exact ihv.seq ihr
  · intro f vs pos h; rw [Fields.blocks.eq_2 _ _ _ h]; exact .nil _ _
  -- items one after the other
  · intros; rw [Ty.blocksList]; exact .nil _ _
  · intro t v vs pos ihv ihr; rw [Ty.blocksList, Ty.encList]; exact ihv.seq ihr
  -- a length word, then one block or the items
  · intro t vs pos hz; rw [Ty.blocksSeq, Ty.encSeq, if_pos hz, if_pos hz, List.append_assoc]
    exact .after _ (leBytes_length 8 _) (.zero (pos + 8) _ _)
  · intro t vs pos hz ih; rw [Ty.blocksSeq, Ty.encSeq, if_neg hz, if_neg hz]
    exact ih.after _ (leBytes_length 8 _)

theorem Ty.blocks_in : ∀ (t : Ty) (v : Val) (pos : Nat), BlocksIn (t.blocks v pos) pos (pos + (t.enc v pos).length) :=
  blocks_in_all.1
theorem Ty.blocksSeq_in : ∀ (t : Ty) (vs : List Val) (pos : Nat),
    BlocksIn (Ty.blocksSeq t vs pos) pos (pos + (Ty.encSeq t vs pos).length) :=
  blocks_in_all.2.2.2.2
theorem Fields.blocks_in : ∀ (f : Fields) (vs : List Val) (pos : Nat), BlocksIn (f.blocks vs pos) pos (pos + (f.enc vs pos).length) :=
  blocks_in_all.2.2.1
theorem Variants.blocks_in : ∀ (vs : Variants) (i : Nat) (vals : List Val) (pos : Nat),
    BlocksIn (vs.blocks i vals pos) pos (pos + (vs.enc i vals pos).length) :=
  blocks_in_all.2.1

end Eps
