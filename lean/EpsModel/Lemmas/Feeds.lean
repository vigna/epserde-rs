/-
  Properties of the hash feeds: `str` hashing is a prefix-free code on names without 0xff (all valid
  UTF-8), and so are fixed-width words; the feed of a derived type in one piece; the one-hole contexts
  through which a type feed flows.
-/
import EpsModel.Hash
import EpsModel.Lemmas.Basic
namespace Eps

/-- the byte 0xff does not occur (true of every valid UTF-8 string, hence of every Rust identifier) -/
def NoFF (a : B) : Prop := ∀ x ∈ a, x ≠ (0xff : UInt8)

theorem noFF_of_all {a : B} (h : a.all (fun x => x != 0xff) = true) : NoFF a :=
  fun x hx => bne_iff_ne.mp (List.all_eq_true.mp h x hx)

theorem hStr_inj : ∀ (a b x y : B), NoFF a → NoFF b → hStr a ++ x = hStr b ++ y → a = b ∧ x = y
  | [], [], _, _, _, _, h => ⟨rfl, (List.cons.inj h).2⟩
  | [], b :: _, _, _, _, hb, h => absurd (List.cons.inj h).1.symm (hb b List.mem_cons_self)
  | a :: _, [], _, _, ha, _, h => absurd (List.cons.inj h).1 (ha a List.mem_cons_self)
  | a :: as, b :: bs, x, y, ha, hb, h =>
      have ⟨e, h'⟩ := List.cons.inj h
      have ih := hStr_inj as bs x y (fun z hz => ha z (List.mem_cons_of_mem _ hz)) (fun z hz => hb z (List.mem_cons_of_mem _ hz)) h'
      ⟨by rw [e, ih.1], ih.2⟩

theorem Ty.typeFeedRep_congr {t u : Ty} (h : t.typeFeed = u.typeFeed) : ∀ n, Ty.typeFeedRep t n = Ty.typeFeedRep u n
  | 0 => by simp only [Ty.typeFeedRep]
  | n+1 => by simp only [Ty.typeFeedRep, h, Ty.typeFeedRep_congr h n]

/-- `"ZeroCopy"` / `"DeepCopy"` -/
def copyTag (m : AdtMeta) : B :=
  if m.zero then [0x5a, 0x65, 0x72, 0x6f, 0x43, 0x6f, 0x70, 0x79] else [0x44, 0x65, 0x65, 0x70, 0x43, 0x6f, 0x70, 0x79]

theorem copyTag_noFF (m : AdtMeta) : NoFF (copyTag m) := by
  unfold copyTag; split <;> exact noFF_of_all (by decide)

theorem copyTag_inj {m m' : AdtMeta} : copyTag m = copyTag m' → m.zero = m'.zero := by
  unfold copyTag; cases m.zero <;> cases m'.zero <;> decide

/-- what follows the type name in the feed of a derived type -/
def adtBody (m : AdtMeta) (vs : Variants) : B :=
  if m.isEnum then Variants.typeFeed vs
  else match vs with
    | .cons _ fds .nil => fds.namesFeed ++ Fields.typesFeed fds
    | _ => []

theorem Ty.typeFeed_adt (m : AdtMeta) (vs : Variants) :
    (Ty.adt m vs).typeFeed = hStr (copyTag m) ++ constValsFeed m.consts ++ constNamesFeed m.consts ++ hStr m.name ++ adtBody m vs := by
  unfold Ty.typeFeed adtBody copyTag; rfl

/-- One-hole contexts through which the type feed flows. -/
inductive Ctx where
  | hole
  | vec (c : Ctx) | boxSlice (c : Ctx) | option (c : Ctx) | bound (c : Ctx) | phantom (c : Ctx)
  | array (n : Nat) (c : Ctx)
  | range (k : RangeK) (c : Ctx)
  | cfL (c : Ctx) (r : Ty) | cfR (l : Ty) (c : Ctx)
  /-- a field of a derived struct: the fields before it, its name and ε flag, the fields after it -/
  | field (m : AdtMeta) (vn : B) (before : List (B × Bool × Ty)) (name : B) (e : Bool) (c : Ctx) (after : Fields)

def consFields : List (B × Bool × Ty) → Fields → Fields
  | [], r => r
  | (n, e, t) :: l, r => .cons n e t (consFields l r)

/-- fill the hole -/
def Ctx.plug : Ctx → Ty → Ty
  | .hole, t => t
  | .vec c, t => .vec (c.plug t)
  | .boxSlice c, t => .boxSlice (c.plug t)
  | .option c, t => .option (c.plug t)
  | .bound c, t => .bound (c.plug t)
  | .phantom c, t => .phantom (c.plug t)
  | .array n c, t => .array (c.plug t) n
  | .range k c, t => .range k (c.plug t)
  | .cfL c r, t => .controlFlow (c.plug t) r
  | .cfR l c, t => .controlFlow l (c.plug t)
  | .field m vn before name e c after, t =>
      .adt { m with isEnum := false } (.cons vn (consFields before (.cons name e (c.plug t) after)) .nil)

theorem namesFeed_consFields (l : List (B × Bool × Ty)) (r : Fields) :
    (consFields l r).namesFeed = (consFields l .nil).namesFeed ++ r.namesFeed := by
  induction l with
  | nil => simp [consFields, Fields.namesFeed]
  | cons x l ih => obtain ⟨n, e, t⟩ := x; simp [consFields, Fields.namesFeed, ih]

theorem typesFeed_consFields (l : List (B × Bool × Ty)) (r : Fields) :
    (consFields l r).typesFeed = (consFields l .nil).typesFeed ++ r.typesFeed := by
  induction l with
  | nil => simp [consFields, Fields.typesFeed]
  | cons x l ih => obtain ⟨n, e, t⟩ := x; simp [consFields, Fields.typesFeed, ih]

end Eps
