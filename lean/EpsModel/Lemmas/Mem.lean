/-
  Zero-copy memory round trip: `fromMem T (toMem T v ++ rest) = v` and `|toMem T v| = sizeOf T`
  for every zero-copy type in the well-formed universe.
-/
import EpsModel.Lemmas.WfL
import EpsModel.Lemmas.WtInduct
import EpsModel.Lemmas.Basic
namespace Eps

/-- Statement of the memory round trip for one (type, value) pair. -/
def MemRT (t : Ty) (v : Val) : Prop :=
  (t.toMem v).length = t.sizeOf ∧ ∀ rest, t.fromMem (t.toMem v ++ rest) = v

theorem MemRT.fromMem_toMem {t : Ty} {v : Val} (h : MemRT t v) : t.fromMem (t.toMem v) = v := by
  have := h.2 []; rwa [List.append_nil] at this

/-- The items of an array or a slice, one after the other: the statement has the shape of `MemRT`. -/
theorem fromMemList_toMemList (t : Ty) (vs : List Val) (h : ∀ v ∈ vs, MemRT t v) :
    (Ty.toMemList t vs).length = vs.length * t.sizeOf ∧
    ∀ rest, Ty.fromMemList t vs.length (Ty.toMemList t vs ++ rest) = vs := by
  induction vs with
  | nil => simp [Ty.fromMemList, Ty.toMemList]
  | cons v vs ih =>
    have hv := h v List.mem_cons_self
    have ih := ih fun w hw => h w (List.mem_cons_of_mem _ hw)
    simp only [Ty.toMemList, List.length_cons, Ty.fromMemList, List.append_assoc]
    exact ⟨by rw [List.length_append, hv.1, ih.1, Nat.succ_mul, Nat.add_comm],
      fun rest => by rw [hv.2, List.drop_left' hv.1, ih.2]⟩

theorem fromMemList_toMemList_self (t : Ty) (vs : List Val) (h : ∀ v ∈ vs, MemRT t v) :
    Ty.fromMemList t vs.length (Ty.toMemList t vs) = vs := by
  have := (fromMemList_toMemList t vs h).2 []; rwa [List.append_nil] at this

/-- arrays and tuples: `n` elements one after the other -/
theorem MemRT.seq {T t : Ty} {n : Nat} {vs : List Val} (hto : T.toMem (.seq vs) = Ty.toMemList t vs)
    (hfrom : ∀ b, T.fromMem b = .seq (Ty.fromMemList t n b)) (hsz : T.sizeOf = n * t.sizeOf)
    (hl : ∀ v ∈ vs, MemRT t v) (hn : vs.length = n) : MemRT T (.seq vs) := by
  subst hn
  exact ⟨by rw [hto, hsz, (fromMemList_toMemList t vs hl).1],
    fun rest => by rw [hto, hfrom, (fromMemList_toMemList t vs hl).2]⟩

/-- the ranges with one bound: the bound itself -/
theorem MemRT.one {T t : Ty} {a : Val} (hto : T.toMem (.record [a]) = t.toMem a)
    (hfrom : ∀ b, T.fromMem b = .record [t.fromMem b]) (hsz : T.sizeOf = t.sizeOf) (h : MemRT t a) :
    MemRT T (.record [a]) :=
  ⟨by rw [hto, hsz, h.1], fun rest => by rw [hto, hfrom, h.2]⟩

/-! The enum clauses in one piece (the equations Lean generates split the `adt` clauses on the variant list). -/

theorem Ty.sizeOf_adt_enum (m : AdtMeta) (vs : Variants) (he : m.isEnum = true) :
    Ty.sizeOf (.adt m vs) = roundUp (roundUp 4 (Variants.maxAlign vs) + Variants.maxSize vs) (Ty.alignOf (.adt m vs)) := by
  unfold Ty.sizeOf; exact if_pos he

theorem Ty.fromMem_adt_enum (m : AdtMeta) (vs : Variants) (b : B) (he : m.isEnum = true) :
    Ty.fromMem (.adt m vs) b =
      .variant (leVal (b.take 4)) (Variants.fromMem vs (leVal (b.take 4)) (b.drop (roundUp 4 (Variants.maxAlign vs)))) := by
  unfold Ty.fromMem; exact if_pos he

theorem length_append_zeros {b : B} {n : Nat} (h : b.length ≤ n) : (b ++ zeros (n - b.length)).length = n := by
  rw [List.length_append, zeros_length, Nat.add_sub_cancel' h]

/-- the round trip of the fields of a `repr(C)` struct laid out from offset `o` -/
def Fields.MemRT (f : Fields) (vs : List Val) : Prop :=
  ∀ o, o + (f.toMem vs o).length = f.endOffset o ∧
    ∀ (pre rest : B), pre.length = o → f.fromMem (pre ++ f.toMem vs o ++ rest) o = vs

theorem Fields.MemRT.zero {f : Fields} {vs : List Val} (h : f.MemRT vs) :
    (f.toMem vs 0).length = f.endOffset 0 ∧ ∀ rest, f.fromMem (f.toMem vs 0 ++ rest) 0 = vs :=
  ⟨(Nat.zero_add _).symm.trans (h 0).1, fun rest => (h 0).2 [] rest rfl⟩

/-- the round trip of the payload of variant `i` of a `repr(C)` enum -/
def Variants.MemRT (V : Variants) (i : Nat) (fs : List Val) : Prop :=
  (V.toMem i fs).length ≤ V.maxSize ∧ ∀ rest, V.fromMem i (V.toMem i fs ++ rest) = fs

theorem memRT_cases : Ty.WtCases (fun t v => t.isZC = true → MemRT t v) (fun t vs => t.isZC = true → ∀ v ∈ vs, MemRT t v)
    (fun f vs => f.allZC = true → f.MemRT vs) (fun V i fs => V.allZC = true → V.MemRT i fs) where
  unit _ := ⟨by simp [Ty.toMem, Ty.sizeOf, Prim.size], fun rest => by simp [Ty.fromMem]⟩
  bits p n hwt _ := by
    refine ⟨by simp [Ty.toMem, Ty.sizeOf], fun rest => ?_⟩
    cases p with
    | unit => cases hwt
    | _ => simp only [Ty.toMem, Ty.fromMem]; rw [leVal_append_leBytes _ _ _ (Prim.wt_lt hwt)]
  phantom t _ := ⟨by simp [Ty.toMem, Ty.sizeOf], fun rest => by simp [Ty.fromMem]⟩
  -- strings, sequences, sum types and the ranges that are not `Copy` are not zero-copy
  string _ _ _ hz := by cases hz
  boxStr _ _ _ hz := by cases hz
  vec _ _ _ _ _ _ _ _ hz := by cases hz
  boxSlice _ _ _ _ _ _ _ _ hz := by cases hz
  none _ hz := by cases hz
  some _ _ _ _ _ hz := by cases hz
  unbounded _ hz := by cases hz
  included _ _ _ _ _ hz := by cases hz
  excluded _ _ _ _ _ hz := by cases hz
  brk _ _ _ _ _ _ hz := by cases hz
  cont _ _ _ _ _ _ hz := by cases hz
  range _ _ _ _ _ _ _ _ _ hz := by cases hz
  incl _ _ _ _ _ _ _ _ _ hz := by cases hz
  rfrom _ _ _ _ _ _ hz := by cases hz
  array t vs _ _ _ _ ih hz :=
    .seq (by rw [Ty.toMem]) (fun _ => by rw [Ty.fromMem]) (by rw [Ty.sizeOf]) (ih (by simpa only [Ty.isZC] using hz)) rfl
  tuple t vs hT _ _ _ ih _ :=
    .seq (by rw [Ty.toMem]) (fun _ => by rw [Ty.fromMem]) (by rw [Ty.sizeOf]) (ih (Ty.wf_tuple hT).2) rfl
  rto t a hT _ _ ih _ :=
    .one (by rw [Ty.toMem]) (fun _ => by simp only [Ty.fromMem]) (by simp only [Ty.sizeOf]) (ih (Ty.wf_range hT).2)
  toIncl t a hT _ _ ih _ :=
    .one (by rw [Ty.toMem]) (fun _ => by simp only [Ty.fromMem]) (by simp only [Ty.sizeOf]) (ih (Ty.wf_range hT).2)
  rangeFull _ := ⟨by simp [Ty.toMem, Ty.sizeOf], fun rest => by simp [Ty.fromMem]⟩
  struct m vn fds fs _ _ he _ _ ih hz := by
    simp only [Ty.isZC, Variants.allZC, Bool.and_true, Bool.and_eq_true] at hz
    have hf := (ih hz.2).zero
    have hsz : (fds.toMem fs 0).length ≤ Ty.sizeOf (.adt m (.cons vn fds .nil)) := by
      simp only [Ty.sizeOf, he, Bool.false_eq_true, if_false, hf.1]
      exact roundUp_ge _ _ (Ty.alignOf_pos _)
    simp only [MemRT, Ty.toMem, Ty.fromMem, he, Bool.false_eq_true, if_false, List.append_assoc]
    exact ⟨length_append_zeros hsz, fun rest => congrArg _ (hf.2 _)⟩
  enum m vs i fs hw _ he _ _ hwt ih hz := by
    simp only [Ty.isZC, Bool.and_eq_true] at hz
    have hv := ih hz.2
    have hi32 : i < 2 ^ (8 * 4) := Nat.lt_trans (Variants.wt_lt vs i fs hwt) (Ty.wf_adt_zero hw hz.1).2
    have hhead : (leBytes 4 i ++ zeros (roundUp 4 vs.maxAlign - 4)).length = roundUp 4 vs.maxAlign := by
      rw [List.length_append, leBytes_length, zeros_length]
      exact Nat.add_sub_cancel' (roundUp_ge 4 vs.maxAlign (Variants.maxAlign_pos vs))
    rw [MemRT, Ty.toMem, Ty.sizeOf_adt_enum m vs he]
    refine ⟨length_append_zeros ?_, fun rest => ?_⟩
    · rw [List.length_append, hhead]
      exact Nat.le_trans (Nat.add_le_add_left hv.1 _) (roundUp_ge _ _ (Ty.alignOf_pos _))
    · rw [Ty.fromMem_adt_enum m vs _ he]
      simp only [List.append_assoc]
      rw [leVal_append_leBytes 4 i _ hi32, ← List.append_assoc (leBytes 4 i), List.drop_left' hhead, hv.2]
  nil _ _ _ hv := nomatch hv
  cons t v vs _ _ _ ih ihs hz x hx := by
    rcases List.mem_cons.mp hx with rfl | hx
    · exact ih hz
    · exact ihs hz x hx
  fnil _ _ := by simp [Fields.toMem, Fields.endOffset, Fields.fromMem]
  fcons nm e t r v vs _ _ _ _ ihv ihr hz o := by
    simp only [Fields.allZC, Bool.and_eq_true] at hz
    have hv := ihv hz.1
    have hge := roundUp_ge o t.alignOf (Ty.alignOf_pos t)
    have hr := ihr hz.2 (roundUp o t.alignOf + t.sizeOf)
    refine ⟨?_, fun pre rest hpre => ?_⟩
    · simp only [Fields.toMem, Fields.endOffset, List.length_append, zeros_length, hv.1]
      rw [← hr.1, ← Nat.add_assoc, ← Nat.add_assoc, Nat.add_sub_cancel' hge]
    · have hpad : (pre ++ zeros (roundUp o t.alignOf - o)).length = roundUp o t.alignOf := by
        rw [List.length_append, zeros_length, hpre, Nat.add_sub_cancel' hge]
      simp only [Fields.toMem, Fields.fromMem, List.append_assoc]
      congr 1
      · rw [← List.append_assoc, List.drop_left' hpad, hv.2]
      · simpa only [List.append_assoc] using
          hr.2 (pre ++ zeros (roundUp o t.alignOf - o) ++ t.toMem v) rest (by rw [List.length_append, hpad, hv.1])
  vzero vn f r fs _ _ ih hz := by
    simp only [Variants.allZC, Bool.and_eq_true] at hz
    have hf := (ih hz.1).zero
    simp only [Variants.MemRT, Variants.toMem, Variants.fromMem, Variants.maxSize, hf.1]
    exact ⟨Nat.le_trans (roundUp_ge _ _ (Fields.maxAlign_pos f)) (Nat.le_max_left _ _), hf.2⟩
  vsucc vn f r i fs _ _ ih hz := by
    simp only [Variants.allZC, Bool.and_eq_true] at hz
    have hr := ih hz.2
    simp only [Variants.MemRT, Variants.toMem, Variants.fromMem, Variants.maxSize]
    exact ⟨Nat.le_trans hr.1 (Nat.le_max_right _ _), hr.2⟩

theorem Ty.memRT : ∀ (t : Ty), t.isZC = true → t.wf = true → ∀ v, t.wt v = true → MemRT t v :=
  fun t hz hw v hwt => (Ty.wt_induct memRT_cases).ty t hw v hwt hz
theorem Fields.memRT : ∀ (f : Fields), f.allZC = true → f.wf = true → ∀ (vs : List Val) (o : Nat), f.wt vs = true →
    (f.toMem vs o).length = f.endOffset o - o ∧
    ∀ (pre rest : B), pre.length = o → f.fromMem (pre ++ f.toMem vs o ++ rest) o = vs :=
  fun f hz hw vs o hwt =>
    have h := (Ty.wt_induct memRT_cases).fields f hw vs hwt hz o
    ⟨Nat.eq_sub_of_add_eq' h.1, h.2⟩
theorem Variants.memRT : ∀ (vs : Variants), vs.allZC = true → vs.wf = true → ∀ (i : Nat) (fs : List Val), vs.wt i fs = true →
    (vs.toMem i fs).length ≤ vs.maxSize ∧ ∀ rest, vs.fromMem i (vs.toMem i fs ++ rest) = fs :=
  fun vs hz hw i fs hwt => (Ty.wt_induct memRT_cases).variants vs hw i fs hwt hz

end Eps
