/-
  Equations of the two cursors of `EpsModel.Cursor`: what a `write` that fits and a `read` do, proved once.

  A byte vector is looked at through its length and the total function `i ↦ (l[i]?).getD 0` (zero beyond the end):
  that is how the aligned cursor holds its contents.
-/
import EpsModel.Cursor
import EpsModel.Lemmas.Basic
namespace Eps.Cur

theorem getD_append_zeros (l : B) (n i : Nat) : ((l ++ zeros n)[i]?).getD 0 = (l[i]?).getD 0 := by
  rw [List.getElem?_append]
  split
  · rfl
  · rw [List.getElem?_eq_none (Nat.le_of_not_lt ‹¬ i < l.length›), zeros, List.getElem?_replicate]
    split <;> rfl

/-- `b` laid over `v` from index `p` on (`p` inside `v`): the length … -/
theorem length_splice (v b : B) (p : Nat) (hp : p ≤ v.length) :
    (v.take p ++ b ++ v.drop (p + b.length)).length = max v.length (p + b.length) := by
  rw [List.length_append, List.length_append, List.length_take, List.length_drop, Nat.min_eq_left hp,
    Nat.add_comm _ (v.length - _), Nat.sub_add_eq_max]

/-- … and the bytes. -/
theorem getD_splice (v b : B) (p i : Nat) (hp : p ≤ v.length) :
    ((v.take p ++ b ++ v.drop (p + b.length))[i]?).getD 0
      = if p ≤ i ∧ i < p + b.length then (b[i - p]?).getD 0 else (v[i]?).getD 0 := by
  have hl : (v.take p).length = p := List.length_take.trans (Nat.min_eq_left hp)
  rw [List.append_assoc]
  by_cases h1 : i < p
  · rw [if_neg (fun h => Nat.not_le_of_lt h1 h.1), List.getElem?_append_left (hl.symm ▸ h1),
      List.getElem?_take_of_lt h1]
  · have h1 := Nat.le_of_not_lt h1
    rw [List.getElem?_append_right (hl.symm ▸ h1), hl]
    by_cases h2 : i < p + b.length
    · rw [if_pos ⟨h1, h2⟩, List.getElem?_append_left (Nat.sub_lt_left_of_lt_add h1 h2)]
    · have h2 := Nat.le_of_not_lt h2
      rw [if_neg (fun h => Nat.not_lt_of_le h2 h.2), List.getElem?_append_right (Nat.le_sub_of_add_le' h2),
        List.getElem?_drop, Nat.sub_sub, Nat.add_sub_cancel' h2]

/-- laying `b` right behind `a` is laying `a ++ b` -/
theorem splice_splice (v a b : B) (p : Nat) (hp : p ≤ v.length) :
    (v.take p ++ a ++ v.drop (p + a.length)).take (p + a.length) ++ b
        ++ (v.take p ++ a ++ v.drop (p + a.length)).drop (p + a.length + b.length)
      = v.take p ++ (a ++ b) ++ v.drop (p + (a ++ b).length) := by
  have hla : (v.take p ++ a).length = p + a.length := by rw [List.length_append, List.length_take, Nat.min_eq_left hp]
  rw [← hla, List.take_left, List.drop_length_add_append, List.drop_drop, hla, List.length_append,
    List.append_assoc (v.take p), Nat.add_assoc]

theorem ceilDiv_mul_ge (n al : Nat) (h : 0 < al) : n ≤ ceilDiv n al * al := by
  have := Nat.lt_div_mul_add (a := n + (al - 1)) h
  unfold ceilDiv; omega

/-- the vector `SCur.write` works on: zero-filled up to the position -/
def SCur.padded (s : SCur) : B := s.buf ++ zeros (s.pos - s.buf.length)

theorem SCur.padded_length (s : SCur) : s.padded.length = max s.buf.length s.pos := by
  rw [SCur.padded, List.length_append, zeros_length, Nat.add_comm, Nat.sub_add_eq_max, Nat.max_comm]

theorem SCur.pos_le_padded (s : SCur) : s.pos ≤ s.padded.length := by
  rw [s.padded_length]; exact Nat.le_max_right _ _

theorem SCur.getD_padded (s : SCur) (i : Nat) : (s.padded[i]?).getD 0 = (s.buf[i]?).getD 0 :=
  getD_append_zeros _ _ _

theorem SCur.padded_of_inside (s : SCur) (h : s.pos ≤ s.buf.length) : s.padded = s.buf := by
  rw [SCur.padded, Nat.sub_eq_zero_of_le h]; exact List.append_nil _

/-- A write that ends at or below `isize::MAX` succeeds and takes everything. -/
theorem SCur.write_eq (s : SCur) (b : B) (h : s.pos + b.length ≤ isizeMax) :
    s.write b = ({ buf := s.padded.take s.pos ++ b ++ s.padded.drop (s.pos + b.length), pos := s.pos + b.length },
                 .wrote b.length) := by
  have hv : (if s.pos > s.buf.length then s.buf ++ zeros (s.pos - s.buf.length) else s.buf) = s.padded := by
    split
    · rfl
    · exact (s.padded_of_inside (Nat.le_of_not_lt ‹_›)).symm
  simp only [SCur.write, if_neg (Nat.not_lt.mpr h), hv]

/-- A write that ends at or below `usize::MAX` takes everything, or nothing where the storage would pass `isize::MAX`. -/
theorem ACur.write_eq (al : Nat) (a : ACur) (b : B) (h : a.pos + b.length ≤ usizeMax) :
    a.write al b = if isizeMax < a.pos + b.length then (a, .panic) else
      ({ cap := if a.cap < a.pos + b.length then ceilDiv (a.pos + b.length) al * al else a.cap,
         get := fun i => if a.pos ≤ i ∧ i < a.pos + b.length then (b[i - a.pos]?).getD 0 else a.get i,
         pos := a.pos + b.length, len := max a.len (a.pos + b.length) }, .wrote b.length) := by
  have hmin : min b.length (usizeMax - a.pos) = b.length := Nat.min_eq_left (Nat.le_sub_of_add_le' h)
  simp only [ACur.write, hmin, List.getD_eq_getElem?_getD]
  rw [if_neg (fun h0 => h0.1 h0.2), if_neg (Nat.lt_irrefl _)]

theorem fits_usize {n : Nat} (h : n ≤ isizeMax) : n ≤ usizeMax := Nat.le_trans h (by decide)

section
variable (s : SCur) (b : B) (h : s.pos + b.length ≤ isizeMax)
include h

theorem SCur.write_ok : s.write b = ((s.write b).1, .wrote b.length) := by rw [SCur.write_eq s b h]

theorem SCur.write_pos : (s.write b).1.pos = s.pos + b.length := by rw [SCur.write_eq s b h]

theorem SCur.write_length : (s.write b).1.buf.length = max s.buf.length (s.pos + b.length) := by
  rw [SCur.write_eq s b h, length_splice _ _ _ s.pos_le_padded, s.padded_length, Nat.max_assoc,
    Nat.max_eq_right (Nat.le_add_right _ _)]

theorem SCur.write_getD (i : Nat) : ((s.write b).1.buf[i]?).getD 0
    = if s.pos ≤ i ∧ i < s.pos + b.length then (b[i - s.pos]?).getD 0 else (s.buf[i]?).getD 0 := by
  rw [SCur.write_eq s b h, getD_splice _ _ _ _ s.pos_le_padded, s.getD_padded]

theorem SCur.writeMany_cons (bs : List B) (acc : Nat) :
    SCur.writeMany s (b :: bs) acc = SCur.writeMany (s.write b).1 bs (acc + b.length) := by
  rw [SCur.writeMany, SCur.write_ok s b h]

end

theorem SCur.write_inside (s : SCur) (b : B) (h : s.pos + b.length ≤ Cur.isizeMax) :
    (s.write b).1.pos ≤ (s.write b).1.buf.length := by
  rw [SCur.write_pos s b h, SCur.write_length s b h]; exact Nat.le_max_right _ _

theorem ACur.write_ok (al : Nat) (a : ACur) (b : B) (h : a.pos + b.length ≤ isizeMax) :
    a.write al b = ((a.write al b).1, .wrote b.length) := by
  rw [ACur.write_eq al a b (fits_usize h), if_neg (Nat.not_lt.mpr h)]

theorem ACur.writeMany_cons (al : Nat) (a : ACur) (b : B) (h : a.pos + b.length ≤ isizeMax) (bs : List B) (acc : Nat) :
    ACur.writeMany al a (b :: bs) acc = ACur.writeMany al (a.write al b).1 bs (acc + b.length) := by
  rw [ACur.writeMany, ACur.write_ok al a b h]

theorem SCur.read_eq (s : SCur) (n : Nat) :
    s.read n = ({ s with pos := s.pos + min n (s.buf.length - s.pos) }, .bytes ((s.buf.drop s.pos).take n)) := by
  have hd : s.buf.drop (min s.pos s.buf.length) = s.buf.drop s.pos := by
    rw [Nat.min_def]; split
    · rfl
    · rw [List.drop_length, List.drop_of_length_le (Nat.le_of_not_le ‹_›)]
  simp only [SCur.read, hd]
  rw [← List.take_eq_take_min, List.length_drop]

theorem ACur.asBytes_length (a : ACur) : a.asBytes.length = a.len := by simp [ACur.asBytes]

theorem ACur.read_eq (a : ACur) (n : Nat) :
    a.read n = ({ a with pos := a.pos + min n (a.len - a.pos) }, .bytes ((a.asBytes.drop a.pos).take n)) := by
  have hb : (a.asBytes.drop a.pos).take n = (List.range (min n (a.len - a.pos))).map fun i => a.get (a.pos + i) := by
    rw [ACur.asBytes, ← List.map_drop, List.range_eq_range', List.drop_range', Nat.mul_one, Nat.zero_add,
      List.range'_eq_map_range, List.map_map, ← List.map_take, List.take_range]
    rfl
  rw [hb]; unfold ACur.read; split
  · rw [Nat.sub_eq_zero_of_le ‹_›, Nat.min_zero]; rfl
  · rfl

end Eps.Cur
