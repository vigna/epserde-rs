/-
  Whatever the input bytes, a value returned by the ε-copy reader has the shape of the ε-copy type.
-/
import EpsModel.Conform
import EpsModel.Lemmas.Post
namespace Eps
open Res (Post)

theorem Ty.Conforms_adt (m : AdtMeta) (vs : Variants) (e : EVal) :
    (Ty.adt m vs).Conforms e ↔
      if m.zero then (∃ off v, e = .bRef off (.adt m vs) v) ∨ (∃ v, e = .zRef (.adt m vs) v)
      else if m.isEnum then ∃ i es, e = .variant i es ∧ Variants.Conforms vs i es
      else ∃ es, e = .record es ∧ (match vs with | .cons _ fds .nil => Fields.Conforms fds es | _ => False) := by
  -- true by definition once the shape of `vs` is known; for a variable `vs` the kernel does not see it, and
  -- `unfold Ty.Conforms` has Lean derive the unfolding equation of the whole definition first, which is slow
  cases vs with
  | nil => rfl
  | cons _ _ r => cases r <;> rfl

theorem decMany_all {α : Type} {rd : B → Nat → RRes α} {P : α → Prop} (hrd : ∀ d pos, Post (rd d pos) fun a _ _ => P a) :
    ∀ n d pos, Post (decMany rd n d pos) fun as _ _ => ∀ x ∈ as, P x :=
  Post.decMany (R := fun _ _ _ as _ _ => ∀ x ∈ as, P x) (fun _ _ => by simp)
    fun _ d pos a d1 p1 as _ _ h1 ih => List.forall_mem_cons.mpr ⟨hrd d pos a d1 p1 h1, ih⟩

theorem decEpsZero_shape (base : Nat) (t : Ty) (d : B) (pos : Nat) :
    Post (decEpsZero base t d pos) fun e _ _ => (∃ off v, e = .bRef off t v) ∨ (∃ v, e = .zRef t v) :=
  Post.bind fun _ _ _ _ => Post.ite (fun _ => Post.ok (.inr ⟨_, rfl⟩)) fun _ => Post.bind fun _ _ _ _ => Post.ok (.inl ⟨_, _, rfl⟩)

theorem decEpsSliceZero_shape (base : Nat) (t : Ty) (d : B) (pos : Nat) (r : Nat × B × List Val) (d' : B) (p' : Nat)
    (_h : decEpsSliceZero base t d pos = .ok (r, d', p')) : True := trivial

/-! The three statements are `Post`s written out: `Post r Q` unfolds to `∀ a d' p', r = .ok (a, d', p') → Q a d' p'`. -/

mutual
theorem Ty.decEps_conforms (base : Nat) : ∀ (t : Ty) (d : B) (pos : Nat) (e : EVal) (d' : B) (p' : Nat),
    t.decEps base d pos = .ok (e, d', p') → t.Conforms e
  | .prim p, d, pos => Post.bind fun v _ _ _ => Post.ok <| by
      cases v with
      | bits n => exact .inl ⟨n, rfl⟩
      | _ => exact .inr rfl
  | .phantom _, _, _ | .rangeFull, _, _ => Post.ok rfl
  | .string, d, pos | .boxStr, d, pos => Post.bind fun (off, b, _) _ _ _ => Post.ok ⟨off, b, rfl⟩
  | .vec t, d, pos | .boxSlice t, d, pos =>
      Post.ite
        (fun hz => Post.bind fun (off, _, vs) _ _ _ => Post.ok (.inl ⟨hz, off, vs, rfl⟩))
        (fun hz => Post.bind fun len d1 p1 _ => Post.seq (decMany_all (Ty.decEps_conforms base t) len d1 p1)
          fun es _ _ h => Post.ok (.inr ⟨eq_false_of_ne_true hz, es, rfl, h⟩))
  | .array t n, d, pos =>
      Post.ite
        (fun hz => Post.bind fun _ _ _ _ => Post.bind fun _ _ _ _ => Post.ok (.inl ⟨hz, _, _, rfl⟩))
        (fun hz => Post.seq (decMany_all (Ty.decEps_conforms base t) n d pos)
          fun es _ _ h => Post.ok (.inr ⟨eq_false_of_ne_true hz, es, rfl, h⟩))
  | .tuple t n, d, pos => decEpsZero_shape base (.tuple t n) d pos
  | .option t, d, pos => by
      refine Post.bind fun tag d1 p1 _ => ?_
      match tag with
      | 0 => exact Post.ok (.inl rfl)
      | 1 => exact Post.seq (Ty.decEps_conforms base t d1 p1) fun x _ _ hx => Post.ok (.inr ⟨x, rfl, hx⟩)
      | _ + 2 => exact Post.err _
  | .bound t, d, pos => by
      refine Post.bind fun tag d1 p1 _ => ?_
      match tag with
      | 0 => exact Post.ok (.inl rfl)
      | 1 => exact Post.seq (Ty.decEps_conforms base t d1 p1) fun x _ _ hx => Post.ok (.inr (.inl ⟨x, rfl, hx⟩))
      | 2 => exact Post.seq (Ty.decEps_conforms base t d1 p1) fun x _ _ hx => Post.ok (.inr (.inr ⟨x, rfl, hx⟩))
      | _ + 3 => exact Post.err _
  | .controlFlow b c, d, pos => by
      refine Post.bind fun tag d1 p1 _ => ?_
      match tag with
      | 0 => exact Post.seq (Ty.decEps_conforms base b d1 p1) fun x _ _ hx => Post.ok (.inl ⟨x, rfl, hx⟩)
      | 1 => exact Post.seq (Ty.decEps_conforms base c d1 p1) fun x _ _ hx => Post.ok (.inr ⟨x, rfl, hx⟩)
      | _ + 2 => exact Post.err _
  | .range .range t, d, pos =>
      Post.seq (Ty.decEps_conforms base t d pos) fun a d1 p1 ha =>
        Post.seq (Ty.decEps_conforms base t d1 p1) fun b _ _ hb => Post.ok (.inl ⟨a, b, rfl, ha, hb⟩)
  | .range .incl t, d, pos =>
      Post.seq (Ty.decEps_conforms base t d pos) fun a d1 p1 ha =>
        Post.seq (Ty.decEps_conforms base t d1 p1) fun b _ _ hb => Post.bind fun _ _ _ _ =>
          Post.ite (fun _ => Post.panic) fun _ => Post.ok (.inl ⟨a, b, rfl, ha, hb⟩)
  | .range .from t, d, pos | .range .to t, d, pos | .range .toIncl t, d, pos =>
      Post.seq (Ty.decEps_conforms base t d pos) fun a _ _ ha => Post.ok (.inr ⟨a, rfl, ha⟩)
  | .adt m vs, d, pos => by
      rw [Ty.decEps_adt]
      refine Post.mono ?_ fun e _ _ h => (Ty.Conforms_adt m vs e).mpr h
      refine Post.ite (fun hz => ?_) fun hz => Post.ite (fun he => ?_) fun he => ?_
      -- the postcondition (`Ty.Conforms_adt`) is the same cascade as the reader, and takes the same branch
      · simp only [if_pos hz]; exact decEpsZero_shape base _ d pos
      · simp only [if_neg hz, if_pos he]
        exact Post.bind fun tag d1 p1 _ => Post.mono (Variants.decEps_conforms base vs tag tag d1 p1)
          fun e _ _ ⟨es, he, hc⟩ => ⟨tag, es, he, hc⟩
      · simp only [if_neg hz, if_neg he]
        match vs with
        | .cons _ fds .nil => exact Post.seq (Fields.decEps_conforms base fds d pos) fun es _ _ h => Post.ok ⟨es, rfl, h⟩
        | .nil | .cons _ _ (.cons _ _ _) => exact Post.panic
  | .sliceRef _, _, _ | .serIter _, _, _ => Post.panic
theorem Fields.decEps_conforms (base : Nat) : ∀ (f : Fields) (d : B) (pos : Nat) (es : List EVal) (d' : B) (p' : Nat),
    f.decEps base d pos = .ok (es, d', p') → f.Conforms es
  | .nil, _, _ => Post.ok rfl
  | .cons _ true t r, d, pos =>
      Post.seq (Ty.decEps_conforms base t d pos) fun e d1 p1 he =>
        Post.seq (Fields.decEps_conforms base r d1 p1) fun rest _ _ hr => Post.ok ⟨e, rest, rfl, he, hr⟩
  | .cons _ false _ r, _, _ =>
      Post.seq (P := fun e _ _ => ∃ v, e = EVal.full v) (Post.bind fun v _ _ _ => Post.ok ⟨v, rfl⟩) fun e d1 p1 he =>
        Post.seq (Fields.decEps_conforms base r d1 p1) fun rest _ _ hr => Post.ok ⟨e, rest, rfl, he, hr⟩
theorem Variants.decEps_conforms (base : Nat) : ∀ (vs : Variants) (orig i : Nat) (d : B) (pos : Nat) (e : EVal) (d' : B) (p' : Nat),
    vs.decEps base orig i d pos = .ok (e, d', p') → ∃ es, e = .variant orig es ∧ vs.Conforms i es
  | .nil, _, _, _, _ => Post.err _
  | .cons _ fs _, _, 0, d, pos => Post.seq (Fields.decEps_conforms base fs d pos) fun es _ _ h => Post.ok ⟨es, rfl, h⟩
  | .cons _ _ r, orig, i+1, d, pos => Variants.decEps_conforms base r orig i d pos
end

end Eps
