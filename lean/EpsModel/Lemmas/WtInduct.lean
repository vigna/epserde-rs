/-
  Induction over the well-typed values of the well-formed types: one case for every shape of
  (type, value) that `Ty.wf` and `Ty.wt` admit, with what the two predicates say about its parts
  as hypotheses, and motives of their own for item lists, field lists and variant lists.
-/
import EpsModel.Lemmas.WfL
namespace Eps

structure Ty.WtCases (P : Ty → Val → Prop) (PL : Ty → List Val → Prop)
    (PF : Fields → List Val → Prop) (PV : Variants → Nat → List Val → Prop) : Prop where
  unit : P (.prim .unit) .unit
  bits : ∀ p n, p.wt n = true → P (.prim p) (.bits n)
  phantom : ∀ t, P (.phantom t) .unit
  string : ∀ b, validUtf8 b = true → b.length < 2 ^ 63 → P .string (.str b)
  boxStr : ∀ b, validUtf8 b = true → b.length < 2 ^ 63 → P .boxStr (.str b)
  vec : ∀ t vs, t.wf = true → (t.isZC || t.isDeep) = true → Ty.wtList t vs = true →
    vs.length < 2 ^ 63 → vs.length * t.sizeOf < 2 ^ 63 → PL t vs → P (.vec t) (.seq vs)
  boxSlice : ∀ t vs, t.wf = true → (t.isZC || t.isDeep) = true → Ty.wtList t vs = true →
    vs.length < 2 ^ 63 → vs.length * t.sizeOf < 2 ^ 63 → PL t vs → P (.boxSlice t) (.seq vs)
  array : ∀ t vs, (Ty.array t vs.length).wf = true → (Ty.array t vs.length).wt (.seq vs) = true →
    t.wf = true → Ty.wtList t vs = true → PL t vs → P (.array t vs.length) (.seq vs)
  tuple : ∀ t vs, (Ty.tuple t vs.length).wf = true → (Ty.tuple t vs.length).wt (.seq vs) = true →
    t.wf = true → Ty.wtList t vs = true → PL t vs → P (.tuple t vs.length) (.seq vs)
  none : ∀ t, P (.option t) (.variant 0 [])
  some : ∀ t x, t.wf = true → t.wt x = true → P t x → P (.option t) (.variant 1 [x])
  unbounded : ∀ t, P (.bound t) (.variant 0 [])
  included : ∀ t x, t.wf = true → t.wt x = true → P t x → P (.bound t) (.variant 1 [x])
  excluded : ∀ t x, t.wf = true → t.wt x = true → P t x → P (.bound t) (.variant 2 [x])
  brk : ∀ b c x, b.wf = true → b.wt x = true → P b x → P (.controlFlow b c) (.variant 0 [x])
  cont : ∀ b c x, c.wf = true → c.wt x = true → P c x → P (.controlFlow b c) (.variant 1 [x])
  range : ∀ t a b, (Ty.range .range t).wf = true → t.wf = true → t.wt a = true → t.wt b = true →
    P t a → P t b → P (.range .range t) (.record [a, b])
  incl : ∀ t a b, (Ty.range .incl t).wf = true → t.wf = true → t.wt a = true → t.wt b = true →
    P t a → P t b → P (.range .incl t) (.record [a, b])
  rfrom : ∀ t a, (Ty.range .from t).wf = true → t.wf = true → t.wt a = true → P t a →
    P (.range .from t) (.record [a])
  rto : ∀ t a, (Ty.range .to t).wf = true → t.wf = true → t.wt a = true → P t a →
    P (.range .to t) (.record [a])
  toIncl : ∀ t a, (Ty.range .toIncl t).wf = true → t.wf = true → t.wt a = true → P t a →
    P (.range .toIncl t) (.record [a])
  rangeFull : P .rangeFull (.record [])
  struct : ∀ m n fds fs, (Ty.adt m (.cons n fds .nil)).wf = true →
    (Ty.adt m (.cons n fds .nil)).wt (.record fs) = true → m.isEnum = false →
    fds.wf = true → fds.wt fs = true → PF fds fs → P (.adt m (.cons n fds .nil)) (.record fs)
  enum : ∀ m vs i fs, (Ty.adt m vs).wf = true → (Ty.adt m vs).wt (.variant i fs) = true → m.isEnum = true →
    vs.wf = true → vs.length < 2 ^ 64 → vs.wt i fs = true → PV vs i fs → P (.adt m vs) (.variant i fs)
  nil : ∀ t, PL t []
  cons : ∀ t v vs, t.wf = true → t.wt v = true → Ty.wtList t vs = true → P t v → PL t vs → PL t (v :: vs)
  fnil : PF .nil []
  fcons : ∀ n e t r v vs, t.wf = true → r.wf = true → t.wt v = true → r.wt vs = true →
    P t v → PF r vs → PF (.cons n e t r) (v :: vs)
  vzero : ∀ n fs r vals, fs.wf = true → fs.wt vals = true → PF fs vals → PV (.cons n fs r) 0 vals
  vsucc : ∀ n fs r i vals, r.wf = true → r.wt i vals = true → PV r i vals → PV (.cons n fs r) (i + 1) vals

/-- What the cases give: the four motives wherever `wf` and `wt` hold. -/
structure Ty.WtAll (P : Ty → Val → Prop) (PL : Ty → List Val → Prop)
    (PF : Fields → List Val → Prop) (PV : Variants → Nat → List Val → Prop) : Prop where
  ty : ∀ t : Ty, t.wf = true → ∀ v, t.wt v = true → P t v
  list : ∀ t : Ty, t.wf = true → ∀ vs, Ty.wtList t vs = true → PL t vs
  fields : ∀ f : Fields, f.wf = true → ∀ vs, f.wt vs = true → PF f vs
  variants : ∀ V : Variants, V.wf = true → ∀ i vals, V.wt i vals = true → PV V i vals

/-- Derived from the functional induction principle of `Ty.wt` (one case per clause of the
    definition, in the order of the clauses, and one catch-all case for the shapes no clause
    admits) with `Ty.wf` taken apart alongside. -/
theorem Ty.wt_induct {P : Ty → Val → Prop} {PL : Ty → List Val → Prop}
    {PF : Fields → List Val → Prop} {PV : Variants → Nat → List Val → Prop} (C : Ty.WtCases P PL PF PV) :
    Ty.WtAll P PL PF PV := by
  suffices h :
      (∀ (t : Ty) (v : Val), t.wf = true → t.wt v = true → P t v) ∧
      (∀ (V : Variants) (i : Nat) (vals : List Val), V.wf = true → V.wt i vals = true → PV V i vals) ∧
      (∀ (f : Fields) (vs : List Val), f.wf = true → f.wt vs = true → PF f vs) ∧
      (∀ (t : Ty) (vs : List Val), t.wf = true → Ty.wtList t vs = true → PL t vs) from
    ⟨fun t hw v hv => h.1 t v hw hv, fun t hw vs hv => h.2.2.2 t vs hw hv,
      fun f hw vs hv => h.2.2.1 f vs hw hv, fun V hw i vals hv => h.2.1 V i vals hw hv⟩
  apply Ty.wt.mutual_induct
    (motive1 := fun t v => t.wf = true → t.wt v = true → P t v)
    (motive2 := fun V i vals => V.wf = true → V.wt i vals = true → PV V i vals)
    (motive3 := fun f vs => f.wf = true → f.wt vs = true → PF f vs)
    (motive4 := fun t vs => t.wf = true → Ty.wtList t vs = true → PL t vs)
  -- the clauses of `Ty.wt`, in order
  · intro _ _; exact C.unit
  · intro p n _ hv; exact C.bits p n (by simpa only [Ty.wt] using hv)
  · intro t _ _; exact C.phantom t
  · intro b _ hv; simp only [Ty.wt, Bool.and_eq_true, decide_eq_true_eq] at hv; exact C.string b hv.1 hv.2
  · intro b _ hv; simp only [Ty.wt, Bool.and_eq_true, decide_eq_true_eq] at hv; exact C.boxStr b hv.1 hv.2
  · intro t vs ih hw hv
    simp only [Ty.wt, Bool.and_eq_true, decide_eq_true_eq] at hv
    simp only [Ty.wf, Bool.and_eq_true] at hw
    exact C.vec t vs hw.1 hw.2 hv.1.1 hv.1.2 hv.2 (ih hw.1 hv.1.1)
  · intro t vs ih hw hv
    simp only [Ty.wt, Bool.and_eq_true, decide_eq_true_eq] at hv
    simp only [Ty.wf, Bool.and_eq_true] at hw
    exact C.boxSlice t vs hw.1 hw.2 hv.1.1 hv.1.2 hv.2 (ih hw.1 hv.1.1)
  -- sliceRef, serIter: not well-formed
  · intro t vs _ hw; cases hw
  · intro t vs _ hw; cases hw
  · intro t n vs ih hw hv
    obtain ⟨hl, rfl⟩ : Ty.wtList t vs = true ∧ vs.length = n := by simpa only [Ty.wt, Bool.and_eq_true, beq_iff_eq] using hv
    exact C.array t vs hw hv (Ty.wf_array hw) hl (ih (Ty.wf_array hw) hl)
  · intro t n vs ih hw hv
    obtain ⟨hl, rfl⟩ : Ty.wtList t vs = true ∧ vs.length = n := by simpa only [Ty.wt, Bool.and_eq_true, beq_iff_eq] using hv
    exact C.tuple t vs hw hv (Ty.wf_tuple hw).1 hl (ih (Ty.wf_tuple hw).1 hl)
  · intro t _ _; exact C.none t
  · intro t x ih hw hv; simp only [Ty.wt] at hv; simp only [Ty.wf] at hw; exact C.some t x hw hv (ih hw hv)
  · intro t _ _; exact C.unbounded t
  · intro t x ih hw hv; simp only [Ty.wt] at hv; simp only [Ty.wf] at hw; exact C.included t x hw hv (ih hw hv)
  · intro t x ih hw hv; simp only [Ty.wt] at hv; simp only [Ty.wf] at hw; exact C.excluded t x hw hv (ih hw hv)
  · intro b c x ih hw hv; simp only [Ty.wt] at hv; exact C.brk b c x (Ty.wf_controlFlow hw).1 hv (ih (Ty.wf_controlFlow hw).1 hv)
  · intro b c x ih hw hv; simp only [Ty.wt] at hv; exact C.cont b c x (Ty.wf_controlFlow hw).2 hv (ih (Ty.wf_controlFlow hw).2 hv)
  · intro t a b iha ihb hw hv
    simp only [Ty.wt, Bool.and_eq_true] at hv
    exact C.range t a b hw (Ty.wf_range hw).1 hv.1 hv.2 (iha (Ty.wf_range hw).1 hv.1) (ihb (Ty.wf_range hw).1 hv.2)
  · intro t a b iha ihb hw hv
    simp only [Ty.wt, Bool.and_eq_true] at hv
    exact C.incl t a b hw (Ty.wf_range hw).1 hv.1 hv.2 (iha (Ty.wf_range hw).1 hv.1) (ihb (Ty.wf_range hw).1 hv.2)
  · intro t a ih hw hv; simp only [Ty.wt] at hv; exact C.rfrom t a hw (Ty.wf_range hw).1 hv (ih (Ty.wf_range hw).1 hv)
  · intro t a ih hw hv; simp only [Ty.wt] at hv; exact C.rto t a hw (Ty.wf_range hw).1 hv (ih (Ty.wf_range hw).1 hv)
  · intro t a ih hw hv; simp only [Ty.wt] at hv; exact C.toIncl t a hw (Ty.wf_range hw).1 hv (ih (Ty.wf_range hw).1 hv)
  · intro _ _; exact C.rangeFull
  · intro m vs fs ih hw hv
    cases vs with
    | nil => simp [Ty.wt] at hv
    | cons n fds r =>
      cases r with
      | cons _ _ _ => simp [Ty.wt] at hv
      | nil =>
        have hv' := hv
        simp only [Ty.wt, Bool.and_eq_true, Bool.not_eq_true'] at hv
        exact C.struct m n fds fs hw hv' hv.1 (Ty.wf_struct hw) hv.2 (ih (Ty.wf_struct hw) hv.2)
  · intro m vs i fs ih hw hv
    have hv' := hv
    simp only [Ty.wt, Bool.and_eq_true] at hv
    exact C.enum m vs i fs hw hv' hv.1 (Ty.wf_adt hw) (Ty.wf_adt_length hw) hv.2 (ih (Ty.wf_adt hw) hv.2)
  -- The catch-all: its hypotheses say that `(t, v)` matches no clause above. They are exactly the side conditions
  -- of the catch-all equation of `Ty.wt`, so `rw` turns `hv` into `false = true` and `assumption` pays the conditions.
  · intro t v; intros; rename_i hv; rw [Ty.wt] at hv <;> first | cases hv | assumption
  -- variants
  · intro _ _ _ hv; rw [Variants.wt] at hv; cases hv
  · intro n fs r vals ih hw hv; rw [Variants.wt] at hv; exact C.vzero n fs r vals (Variants.wf_cons hw).1 hv (ih (Variants.wf_cons hw).1 hv)
  · intro n fs r i vals ih hw hv; rw [Variants.wt] at hv; exact C.vsucc n fs r i vals (Variants.wf_cons hw).2 hv (ih (Variants.wf_cons hw).2 hv)
  -- fields
  · intro _ _; exact C.fnil
  · intro n e t r v vs ihv ihr hw hv
    simp only [Fields.wt, Bool.and_eq_true] at hv
    exact C.fcons n e t r v vs (Fields.wf_cons hw).1 (Fields.wf_cons hw).2 hv.1 hv.2 (ihv (Fields.wf_cons hw).1 hv.1) (ihr (Fields.wf_cons hw).2 hv.2)
  -- fields and values of different lengths: the catch-all of `Fields.wt`, as above
  · intro f vs h1 h2 _ hv; rw [Fields.wt] at hv <;> first | cases hv | assumption
  -- items
  · intro t _ _; exact C.nil t
  · intro t v vs ihv ihs hw hv
    simp only [Ty.wtList, Bool.and_eq_true] at hv
    exact C.cons t v vs hw hv.1 hv.2 (ihv hw hv.1) (ihs hw hv.2)

end Eps
