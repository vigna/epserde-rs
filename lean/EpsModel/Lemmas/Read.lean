/-
  The steps the readers are made of. On what the writer wrote: `read_exact`, fixed-width words and
  `align` return it and leave the rest. On input that is too short: `ReadError` from `read_exact`,
  a bounds-check panic from indexing the slice (`SPre`: strict prefixes; `NotOk`: a result that is
  not a value). Primitives: both readers read `size_of` bytes as a word and then do the same to it
  (`Prim.ofWord`).
-/
import EpsModel.Lemmas.Clauses
import EpsModel.Lemmas.WfL
import EpsModel.Lemmas.Basic
namespace Eps

@[simp] theorem Res.bind_ok (a : α) (f : α → Res β) : (Res.ok a).bind f = f a := rfl
@[simp] theorem Res.bind_err (e : Err) (f : α → Res β) : (Res.err e : Res α).bind f = .err e := rfl
@[simp] theorem Res.bind_panic (f : α → Res β) : (Res.panic : Res α).bind f = .panic := rfl

theorem Res.bind_assoc (r : Res α) (f : α → Res β) (g : β → Res γ) :
    (r.bind f).bind g = r.bind fun a => (f a).bind g := by cases r <;> rfl

theorem Res.bind_eq_ok {r : Res α} {f : α → Res β} {b : β} (h : r.bind f = .ok b) : ∃ a, r = .ok a ∧ f a = .ok b := by
  cases r with
  | ok a => exact ⟨a, rfl, h⟩
  | err e => cases h
  | panic => cases h

theorem Res.bind_eq_of {r : Res α} {a : α} {f : α → Res β} {x : Res β} (h : r = .ok a) (hf : f a = x) : r.bind f = x := by
  rw [h]; exact hf

theorem readExact_append {n : Nat} (a rest : B) (pos : Nat) (h : a.length = n) :
    readExact n (a ++ rest) pos = .ok (a, rest, pos + n) := by
  subst h; simp [readExact]

theorem takeOrPanic_append {n : Nat} (a rest : B) (pos : Nat) (h : a.length = n) :
    takeOrPanic n (a ++ rest) pos = .ok (a, rest, pos + n) := by
  subst h; simp [takeOrPanic]

theorem readWord_leBytes (w n : Nat) (rest : B) (pos : Nat) (h : n < 2 ^ (8 * w)) :
    readWord w (leBytes w n ++ rest) pos = .ok (n, rest, pos + w) := by
  simp [readWord, readExact_append (leBytes w n) rest pos (leBytes_length w n), leVal_leBytes w n h]

theorem readWord_byte (b : UInt8) (rest : B) (pos : Nat) :
    readWord 1 (b :: rest) pos = .ok (b.toNat, rest, pos + 1) := by
  simp [readWord, readExact, leVal]

theorem alignRead_ok (m : Mode) (u pos : Nat) (rest : B) (h : ModeOK m (pos + pad pos u) u) :
    alignRead m u (zeros (pad pos u) ++ rest) pos = .ok ((), rest, pos + pad pos u) := by
  cases m with
  | reader =>
    simp [alignRead, readExact_append (zeros (pad pos u)) rest pos (zeros_length _)]
  | slice base =>
    simp only [ModeOK] at h
    simp [alignRead, takeOrPanic_append (zeros (pad pos u)) rest pos (zeros_length _), h]

theorem alignRead_bad (base u pos : Nat) (rest : B) (h : ¬ ModeOK (.slice base) (pos + pad pos u) u) :
    alignRead (.slice base) u (zeros (pad pos u) ++ rest) pos = .err .alignment := by
  simp only [ModeOK] at h
  simp [alignRead, takeOrPanic_append (zeros (pad pos u)) rest pos (zeros_length _), h]

theorem alignRead_one (m : Mode) (d : B) (pos : Nat) : alignRead m 1 d pos = .ok ((), d, pos) := by
  cases m <;> simp [alignRead, pad_one, readExact, takeOrPanic, Nat.mod_one]

/-- `p` is a strict prefix of `s`. -/
def SPre (p s : B) : Prop := ∃ q, q ≠ [] ∧ s = p ++ q

theorem SPre.length_lt {p s : B} (h : SPre p s) : p.length < s.length := by
  obtain ⟨q, hq, rfl⟩ := h
  rw [List.length_append]; exact Nat.lt_add_of_pos_right (List.length_pos_iff.mpr hq)

theorem spre_nil_absurd {p : B} {α : Prop} (h : SPre p []) : α :=
  absurd h.length_lt (Nat.not_lt_zero _)

theorem spre_append {p a b : B} (h : SPre p (a ++ b)) : SPre p a ∨ ∃ q, p = a ++ q ∧ SPre q b := by
  obtain ⟨q', hq', heq⟩ := h
  rcases List.append_eq_append_iff.mp heq with ⟨a', ha, hb⟩ | ⟨c', hp, hb⟩
  · -- p = a ++ a', b = a' ++ q'
    right; exact ⟨a', ha, q', hq', hb⟩
  · -- a = p ++ c', q' = c' ++ b
    by_cases hc : c' = []
    · subst hc
      rw [List.append_nil] at hp; rw [List.nil_append] at hb
      subst hp hb
      exact .inr ⟨[], (List.append_nil _).symm, _, hq', rfl⟩
    · left; exact ⟨c', hc, hp⟩

/-- the result is not a value -/
def NotOk (r : Res α) : Prop := ∀ x, r ≠ .ok x

theorem NotOk.err (e : Err) : NotOk (.err e : Res α) := fun _ h => by cases h
theorem NotOk.panic : NotOk (.panic : Res α) := fun _ h => by cases h
theorem NotOk.bind_of {r : Res α} {f : α → Res β} (h : ∀ a, r = .ok a → NotOk (f a)) : NotOk (r.bind f) := by
  cases r with
  | ok a => exact h a rfl
  | err e => exact NotOk.err e
  | panic => exact NotOk.panic
theorem NotOk.bind {r : Res α} (f : α → Res β) (h : NotOk r) : NotOk (r.bind f) :=
  NotOk.bind_of fun a ha => absurd ha (h a)

theorem readExact_short (n : Nat) (p : B) (pos : Nat) (h : p.length < n) : readExact n p pos = .err .readError :=
  if_neg (Nat.not_le.mpr h)

theorem readWord_short (w : Nat) (p : B) (pos : Nat) (h : p.length < w) : readWord w p pos = .err .readError := by
  unfold readWord; rw [readExact_short w p pos h]; rfl

theorem takeOrPanic_short (n : Nat) (p : B) (pos : Nat) (h : p.length < n) : takeOrPanic n p pos = .panic :=
  if_neg (Nat.not_le.mpr h)

theorem alignRead_reader_short (u pos : Nat) (p : B) (h : p.length < pad pos u) :
    alignRead .reader u p pos = .err .readError := by
  unfold alignRead; rw [readExact_short _ p pos h]; rfl

theorem alignRead_slice_short (base u pos : Nat) (p : B) (h : p.length < pad pos u) :
    alignRead (.slice base) u p pos = .panic := by
  unfold alignRead; rw [takeOrPanic_short _ p pos h]; rfl

/-- What the reader of a primitive makes of the word `n` it has read: nothing for `()`, 0/1 for
    `bool`, the validity assertions of `char` and NonZero. -/
def Prim.ofWord (p : Prim) (n : Nat) : Res Val :=
  match p with
  | .unit => .ok .unit
  | .bool => .ok (.bits (if n != 0 then 1 else 0))
  | .char => if isScalar n then .ok (.bits n) else .panic
  | .nz _ => if n == 0 then .panic else .ok (.bits n)
  | _ => .ok (.bits n)

theorem Prim.decFull_eq (p : Prim) (d : B) (pos : Nat) :
    p.decFull d pos = (readWord p.size d pos).bind fun (n, d, pos) => (p.ofWord n).bind fun v => .ok (v, d, pos) := by
  cases p with
  | char | nz k =>
    unfold Prim.decFull Prim.ofWord
    exact congrArg (Res.bind _) (funext fun (n, d, pos) => by dsimp only; split <;> rfl)
  | _ => rfl

theorem Prim.decEps_eq (p : Prim) (d : B) (pos : Nat) :
    p.decEps d pos = (takeOrPanic p.size d pos).bind fun (b, d, pos) => (p.ofWord (leVal b)).bind fun v => .ok (v, d, pos) := by
  cases p with
  | char | nz k =>
    unfold Prim.decEps Prim.ofWord
    exact congrArg (Res.bind _) (funext fun (b, d, pos) => by dsimp only; split <;> rfl)
  | _ => rfl

theorem Prim.ofWord_wt {p : Prim} {n : Nat} (h : p.wt n = true) : p.ofWord n = .ok (.bits n) := by
  cases p with
  | unit => cases h
  | bool =>
    have : n = 0 ∨ n = 1 := by simp only [Prim.wt, decide_eq_true_eq] at h; omega
    rcases this with rfl | rfl <;> rfl
  | char => simp only [Prim.wt] at h; simp only [Prim.ofWord, h, if_true]
  | nz k =>
    simp only [Prim.wt, Bool.and_eq_true, bne_iff_ne] at h
    simp only [Prim.ofWord, beq_iff_eq, h.2, if_false]
  | _ => rfl

theorem Prim.ofWord_shape {p : Prim} {n : Nat} {v : Val} (h : p.ofWord n = .ok v) : v = .unit ∨ ∃ k, v = .bits k := by
  cases p <;> simp only [Prim.ofWord] at h <;> (try split at h) <;> cases h <;> simp

theorem Prim.framed (p : Prim) (n : Nat) (h : p.wt n = true) (pos : Nat) (rest : B) :
    p.decFull (leBytes p.size n ++ rest) pos = .ok (.bits n, rest, pos + p.size) := by
  rw [Prim.decFull_eq, readWord_leBytes p.size n rest pos (Prim.wt_lt h)]
  simp only [Res.bind_ok, Prim.ofWord_wt h]

theorem Prim.framedEps (p : Prim) (n : Nat) (h : p.wt n = true) (pos : Nat) (rest : B) :
    p.decEps (leBytes p.size n ++ rest) pos = .ok (.bits n, rest, pos + p.size) := by
  rw [Prim.decEps_eq, takeOrPanic_append _ rest pos (leBytes_length ..)]
  simp only [Res.bind_ok, leVal_leBytes p.size n (Prim.wt_lt h), Prim.ofWord_wt h]

theorem Prim.prefix_full (p : Prim) (n : Nat) (q : B) (pos : Nat) (h : SPre q (leBytes p.size n)) :
    p.decFull q pos = .err .readError := by
  rw [Prim.decFull_eq, readWord_short p.size q pos (by simpa using h.length_lt)]; rfl

theorem Prim.prefix_eps (p : Prim) (n : Nat) (q : B) (pos : Nat) (h : SPre q (leBytes p.size n)) :
    p.decEps q pos = .panic := by
  rw [Prim.decEps_eq, takeOrPanic_short p.size q pos (by simpa using h.length_lt)]; rfl

theorem decMany_add {α : Type} (rd : B → Nat → RRes α) : ∀ (n m : Nat) (d : B) (pos : Nat),
    decMany rd (n + m) d pos = (decMany rd n d pos).bind fun (vs, d, pos) =>
      (decMany rd m d pos).bind fun (ws, d, pos) => .ok (vs ++ ws, d, pos)
  | 0, m, d, pos => by
      simp only [Nat.zero_add, decMany, Res.bind_ok, List.nil_append]
      cases decMany rd m d pos <;> rfl
  | n+1, m, d, pos => by
      rw [Nat.add_right_comm, decMany, decMany]
      simp only [decMany_add rd n m, Res.bind_assoc, Res.bind_ok, List.cons_append]

/-- The item loop reports the error of the first item that fails, whatever comes after it. -/
theorem decMany_err_after {α : Type} (rd : B → Nat → RRes α) (e : Err)
    (vs : List α) (n : Nat) (hn : vs.length < n) (d : B) (pos : Nat) (d' : B) (pos' : Nat)
    (hok : decMany rd vs.length d pos = .ok (vs, d', pos')) (herr : rd d' pos' = .err e) :
    decMany rd n d pos = .err e := by
  obtain ⟨k, rfl⟩ : ∃ k, n = vs.length + (k + 1) := ⟨n - vs.length - 1, by omega⟩
  rw [decMany_add, hok]
  simp only [Res.bind_ok, decMany, herr, Res.bind_err]

end Eps
