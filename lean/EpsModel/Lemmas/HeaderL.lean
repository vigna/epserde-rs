/-
  The header: `check_header` accepts what `write_header` wrote for the same hash words — as a
  `Spec`, so that misplacement and truncation of the whole stream come with it.
-/
import EpsModel.Header
import EpsModel.Lemmas.Spec
namespace Eps

theorem magicBytes_length : magicBytes.length = 8 := by decide
theorem leVal_magicBytes : leVal magicBytes = magic := rfl

theorem wHeader_length (th ah : Nat) (name : B) : (wHeader th ah name).length = 37 + name.length := by
  simp only [wHeader, List.length_append, leBytes_length, magicBytes_length]; omega

theorem magicBytes_eq : magicBytes = leBytes 8 magic := by decide

/-- `check_header` on what `write_header` wrote, followed by anything or cut anywhere. -/
theorem checkHeader_spec (m : Mode) {th ah : Nat} {name : B} (hth : th < 2 ^ 64) (hah : ah < 2 ^ 64)
    (hu : validUtf8 name = true) (hl : name.length < 2 ^ 63) :
    Spec m (fun d => checkHeader th ah d 0) (wHeader th ah name) 0 [] () := by
  unfold wHeader
  simp only [List.append_assoc, magicBytes_eq]
  unfold checkHeader
  refine Spec.word (w := 8) (by decide) (Spec.ite_neg (by simp) ?_)
  refine Spec.word (w := 2) (by decide) (Spec.ite_neg (by simp) ?_)
  refine Spec.word (w := 2) (by decide) (Spec.ite_neg (by simp) ?_)
  refine Spec.word (w := 1) (by decide) (Spec.ite_neg (by simp) ?_)
  refine Spec.word (w := 8) (by omega) (Spec.word (w := 8) (by omega) ?_)
  exact (Spec.decFullStr m name _ hu hl).map fun _ _ => by simp

theorem checkHeader_wHeader (th ah : Nat) (name rest : B) (hth : th < 2^64) (hah : ah < 2^64)
    (hu : validUtf8 name = true) (hl : name.length < 2^63) :
    checkHeader th ah (wHeader th ah name ++ rest) 0 = .ok ((), rest, (wHeader th ah name).length) := by
  rw [(checkHeader_spec .reader hth hah hu hl).ok (AlignedAll_nil _) rest, Nat.zero_add]

theorem Ty.header_length (H : B → Nat) (T : Ty) (name : B) : (T.header H name).length = 37 + name.length := by
  unfold Ty.header; exact wHeader_length _ _ _

end Eps
