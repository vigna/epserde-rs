/-
  Helper lemmas: little-endian words, padding arithmetic.
-/
import EpsModel.Basic
namespace Eps

@[simp] theorem leBytes_length (w n : Nat) : (leBytes w n).length = w := by
  induction w generalizing n with
  | zero => simp [leBytes]
  | succ w ih => simp [leBytes, ih]

theorem two_pow_byte (w : Nat) : 2 ^ (8 * (w + 1)) = 256 * 2 ^ (8 * w) := by
  rw [Nat.mul_succ, Nat.pow_add, Nat.mul_comm]

theorem leVal_leBytes (w n : Nat) (h : n < 2 ^ (8 * w)) : leVal (leBytes w n) = n := by
  induction w generalizing n with
  | zero => simp at h; simp [leBytes, leVal, h]
  | succ w ih =>
    rw [two_pow_byte] at h
    simp only [leBytes, leVal, ih _ (Nat.div_lt_of_lt_mul h)]
    have : (UInt8.ofNat (n % 256)).toNat = n % 256 := by
      simp [UInt8.toNat_ofNat']
    rw [this]; exact Nat.mod_add_div n 256

theorem leVal_append_leBytes (w n : Nat) (rest : B) (h : n < 2 ^ (8 * w)) :
    leVal ((leBytes w n ++ rest).take w) = n := by
  rw [List.take_left' (leBytes_length w n), leVal_leBytes w n h]

theorem leVal_lt (b : B) : leVal b < 2 ^ (8 * b.length) := by
  induction b with
  | nil => simp [leVal]
  | cons x xs ih =>
    rw [List.length_cons, two_pow_byte, leVal]
    have hx : x.toNat < 256 := x.toNat_lt
    have h1 : 256 * (leVal xs + 1) ≤ 256 * 2 ^ (8 * xs.length) := Nat.mul_le_mul_left 256 ih
    omega

theorem leBytes_leVal (b : B) : leBytes b.length (leVal b) = b := by
  induction b with
  | nil => simp [leBytes]
  | cons x xs ih =>
    simp only [List.length_cons, leBytes, leVal]
    have hx : x.toNat < 256 := x.toNat_lt
    rw [Nat.add_mul_mod_self_left, Nat.mod_eq_of_lt hx, Nat.add_mul_div_left _ _ (by decide), Nat.div_eq_of_lt hx,
      Nat.zero_add, ih]
    simp

/-- fixed-width words are a prefix code -/
theorem leBytes_inj {w n m : Nat} {x y : B} (hn : n < 2 ^ (8 * w)) (hm : m < 2 ^ (8 * w))
    (h : leBytes w n ++ x = leBytes w m ++ y) : n = m ∧ x = y := by
  have e := List.append_inj h (by simp)
  have := congrArg leVal e.1
  rw [leVal_leBytes w n hn, leVal_leBytes w m hm] at this
  exact ⟨this, e.2⟩

@[simp] theorem zeros_length (n : Nat) : (zeros n).length = n := by simp [zeros]

/-- `pos` and what it lacks to the next multiple of `u`: this is `u + (pos - pos % u)` -/
theorem add_sub_mod (pos : Nat) {u : Nat} (hu : 0 < u) : (pos + (u - pos % u)) % u = 0 := by
  rw [← Nat.add_sub_assoc (Nat.le_of_lt (Nat.mod_lt pos hu)), Nat.add_comm, Nat.add_sub_assoc (Nat.mod_le pos u),
    Nat.add_mod_left]
  exact Nat.sub_mod_eq_zero_of_mod_eq (Nat.mod_mod pos u).symm

theorem padNat_lt {pos u : Nat} (hu : 0 < u) : padNat pos u < u := Nat.mod_lt _ hu

theorem padNat_spec {pos u : Nat} (hu : 0 < u) : (pos + padNat pos u) % u = 0 := by
  unfold padNat; rw [Nat.add_mod_mod]; exact add_sub_mod pos hu

theorem pad_one (pos : Nat) : pad pos 1 = 0 := by simp [pad]

theorem pad_unique {pos u a b : Nat} (ha : a < u) (hb : b < u) (h1 : (pos + a) % u = 0) (h2 : (pos + b) % u = 0) :
    a = b := by
  have key : ∀ {a b : Nat}, a ≤ b → b < u → (pos + a) % u = 0 → (pos + b) % u = 0 → a = b := by
    intro a b hab hb h1 h2
    have h := Nat.sub_mod_eq_zero_of_mod_eq (h2.trans h1.symm)
    rw [Nat.add_sub_add_left] at h
    -- `b - a` is a multiple of `u` below `u`
    exact Nat.le_antisymm hab (Nat.le_of_sub_eq_zero
      (Nat.eq_zero_of_dvd_of_lt (Nat.dvd_of_mod_eq_zero h) (Nat.lt_of_le_of_lt (Nat.sub_le b a) hb)))
  rcases Nat.le_total a b with h | h
  · exact key h hb h1 h2
  · exact (key h ha h2 h1).symm

theorem padNat_min {pos u g : Nat} (hu : 0 < u) (hg : (pos + g) % u = 0) : padNat pos u ≤ g := by
  rw [pad_unique (padNat_lt hu) (Nat.mod_lt g hu) (padNat_spec hu) (by rw [Nat.add_mod_mod]; exact hg)]
  exact Nat.mod_le _ _

/-- On powers of two (up to 2^64) the bit formula computes the distance to the next multiple. -/
theorem pad_eq_padNat (pos k : Nat) (hk : k ≤ 64) : pad pos (2 ^ k) = padNat pos (2 ^ k) := by
  have hd : 2 ^ k ∣ 2 ^ 64 := Nat.pow_dvd_pow 2 hk
  have hpos : 0 < 2 ^ k := Nat.two_pow_pos k
  unfold pad
  rw [Nat.and_two_pow_sub_one_eq_mod, Nat.mod_mod_of_dvd _ hd]
  refine pad_unique (Nat.mod_lt _ hpos) (padNat_lt hpos) ?_ (padNat_spec hpos)
  -- `pos + (2^64 - pos % 2^64)` is a multiple of `2^64`, hence of `2^k`
  rw [Nat.add_mod_mod]
  exact Nat.mod_eq_zero_of_dvd (Nat.dvd_trans hd (Nat.dvd_of_mod_eq_zero (add_sub_mod pos (Nat.two_pow_pos 64))))

end Eps
