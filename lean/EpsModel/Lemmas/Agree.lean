/-
  Agreement of the readers on *arbitrary* input bytes, in three steps.

  `Ty.decFull_mode`: if the full-copy methods run on a `SliceWithPos` (as the derived ε-copy code
  runs them for the fields that are not parameter-typed) return a value, the same methods on a
  generic reader return the same value, rest and position: the slice reader only adds failure
  cases (address check, bounds-check panic).
  `Ty.decFull_shr`: a reader leaves no more bytes than it was given.
  `Ty.eps_full_agree`: if the ε-copy reader returns a result whose borrowed strings are valid
  UTF-8 (it does not validate them: it transmutes the bytes; the full-copy reader panics on
  invalid UTF-8), the full-copy reader over a generic reader returns the value that result
  describes, the same rest and the same position.
-/
import EpsModel.Lemmas.Post
import EpsModel.Header
namespace Eps
open Res (Post)

/-- `r ⊑ r'`: whenever `r` is a value, `r'` is the same value. -/
def Res.le (r r' : Res α) : Prop := ∀ x, r = .ok x → r' = .ok x

theorem Res.le_refl (r : Res α) : Res.le r r := fun _ h => h

theorem Res.le_bind {r r' : Res α} {f f' : α → Res β} (h : Res.le r r') (hf : ∀ a, Res.le (f a) (f' a)) :
    Res.le (r.bind f) (r'.bind f') := by
  intro x hx
  obtain ⟨a, ha, hfa⟩ := Res.bind_eq_ok hx
  rw [h a ha]
  exact hf a x hfa

theorem Res.le_bind_left {r r' : Res α} {f : α → Res β} (h : Res.le r r') : Res.le (r.bind f) (r'.bind f) :=
  Res.le_bind h fun _ => Res.le_refl _

theorem Res.le_bind_right {r : Res α} {f f' : α → Res β} (hf : ∀ a, Res.le (f a) (f' a)) : Res.le (r.bind f) (r.bind f') :=
  Res.le_bind (Res.le_refl r) hf

theorem Res.le_ite {c : Prop} [Decidable c] {a a' b b' : Res α} (ha : Res.le a a') (hb : Res.le b b') :
    Res.le (if c then a else b) (if c then a' else b') := by
  split
  · exact ha
  · exact hb

theorem takeOrPanic_ok {n : Nat} {d : B} {pos : Nat} {b d' : B} {p' : Nat} (h : takeOrPanic n d pos = .ok (b, d', p')) :
    n ≤ d.length ∧ b = d.take n ∧ d' = d.drop n ∧ p' = pos + n := by
  simp only [takeOrPanic] at h
  split at h
  · rename_i hle; cases h; exact ⟨hle, rfl, rfl, rfl⟩
  · cases h

theorem readExact_of_le {n : Nat} {d : B} {pos : Nat} (h : n ≤ d.length) :
    readExact n d pos = .ok (d.take n, d.drop n, pos + n) :=
  if_pos h

/-- The bounds-checked `read_exact` returns whatever the indexing `data[..n]` returns. -/
theorem takeOrPanic_le (n : Nat) (d : B) (pos : Nat) : Res.le (takeOrPanic n d pos) (readExact n d pos) := by
  intro (b, d', p') h
  obtain ⟨hle, rfl, rfl, rfl⟩ := takeOrPanic_ok h
  exact readExact_of_le hle

theorem alignRead_mode (base u : Nat) (d : B) (pos : Nat) :
    Res.le (alignRead (.slice base) u d pos) (alignRead .reader u d pos) := by
  refine Res.le_bind (takeOrPanic_le _ d pos) fun (_, d1, p1) => ?_
  show Res.le (if (base + p1) % u != 0 then .err .alignment else .ok ((), d1, p1)) (.ok ((), d1, p1))
  intro x h
  split at h
  · cases h
  · exact h

theorem decMany_le {α : Type} (rd rd' : B → Nat → RRes α) (h : ∀ d pos, Res.le (rd d pos) (rd' d pos)) :
    ∀ (n : Nat) (d : B) (pos : Nat), Res.le (decMany rd n d pos) (decMany rd' n d pos)
  | 0, _, _ => Res.le_refl _
  | n+1, d, pos => Res.le_bind (h d pos) fun (_, d1, p1) => Res.le_bind_left (decMany_le rd rd' h n d1 p1)

theorem decFullVecZero_mode (base : Nat) (t : Ty) (d : B) (pos : Nat) :
    Res.le (decFullVecZero (.slice base) t d pos) (decFullVecZero .reader t d pos) :=
  Res.le_bind_right fun (_, d1, p1) => Res.le_bind_left (alignRead_mode base _ d1 p1)

theorem decFullZero_mode (base : Nat) (t : Ty) (d : B) (pos : Nat) :
    Res.le (decFullZero (.slice base) t d pos) (decFullZero .reader t d pos) :=
  Res.le_bind_left (alignRead_mode base _ d pos)

mutual
/-- The slice reader only adds failures to the generic reader. -/
theorem Ty.decFull_mode (base : Nat) : ∀ (t : Ty) (d : B) (pos : Nat),
    Res.le (Ty.decFull (.slice base) t d pos) (Ty.decFull .reader t d pos)
  | .prim p, d, pos => Res.le_refl (p.decFull d pos)
  | .phantom _, d, pos => Res.le_refl (.ok (Val.unit, d, pos))
  | .string, d, pos | .boxStr, d, pos => Res.le_refl (decFullStr d pos)
  | .rangeFull, d, pos => Res.le_refl (.ok (Val.record [], d, pos))
  | .sliceRef _, _, _ | .serIter _, _, _ => Res.le_refl .panic
  | .vec t, d, pos | .boxSlice t, d, pos =>
      Res.le_ite (Res.le_bind_left (decFullVecZero_mode base t d pos))
        (Res.le_bind_right fun (len, d1, p1) => Res.le_bind_left (decMany_le _ _ (Ty.decFull_mode base t) len d1 p1))
  | .array t n, d, pos =>
      Res.le_ite (decFullZero_mode base (.array t n) d pos) (Res.le_bind_left (decMany_le _ _ (Ty.decFull_mode base t) n d pos))
  | .tuple t n, d, pos => decFullZero_mode base (.tuple t n) d pos
  | .option t, d, pos => by
      refine Res.le_bind_right fun (tag, d1, p1) => ?_
      -- The two sides are `match`es on the tag that differ in the mode of the branches not taken. Left to compare them
      -- (`Res.le_refl _`), the kernel compares those branches, `Ty.decFull (.slice base) t` with `Ty.decFull .reader t`
      -- unfolded, before it evaluates the `match`es: so each case names what both sides evaluate to.
      match tag with
      | 0 => exact Res.le_refl (.ok (Val.variant 0 [], d1, p1))
      | 1 => exact Res.le_bind_left (Ty.decFull_mode base t d1 p1)
      | n+2 => exact Res.le_refl (.err (.invalidTag (n+2)))
  | .bound t, d, pos => by
      refine Res.le_bind_right fun (tag, d1, p1) => ?_
      match tag with
      | 0 => exact Res.le_refl (.ok (Val.variant 0 [], d1, p1))
      | 1 | 2 => exact Res.le_bind_left (Ty.decFull_mode base t d1 p1)
      | n+3 => exact Res.le_refl (.err (.invalidTag (n+3)))
  | .controlFlow b c, d, pos => by
      refine Res.le_bind_right fun (tag, d1, p1) => ?_
      match tag with
      | 0 => exact Res.le_bind_left (Ty.decFull_mode base b d1 p1)
      | 1 => exact Res.le_bind_left (Ty.decFull_mode base c d1 p1)
      | n+2 => exact Res.le_refl (.err (.invalidTag (n+2)))
  | .range .range t, d, pos | .range .incl t, d, pos =>
      Res.le_bind (Ty.decFull_mode base t d pos) fun (_, d1, p1) => Res.le_bind_left (Ty.decFull_mode base t d1 p1)
  | .range .from t, d, pos | .range .to t, d, pos | .range .toIncl t, d, pos =>
      Res.le_bind_left (Ty.decFull_mode base t d pos)
  | .adt mt vs, d, pos => by
      rw [Ty.decFull_adt, Ty.decFull_adt]
      refine Res.le_ite (decFullZero_mode base _ d pos)
        (Res.le_ite (Res.le_bind_right fun (tag, d1, p1) => Variants.decFull_mode base vs tag tag d1 p1) ?_)
      match vs with
      | .cons _ fds .nil => exact Res.le_bind_left (Fields.decFull_mode base fds d pos)
      | .nil | .cons _ _ (.cons _ _ _) => exact Res.le_refl .panic
theorem Fields.decFull_mode (base : Nat) : ∀ (f : Fields) (d : B) (pos : Nat),
    Res.le (Fields.decFull (.slice base) f d pos) (Fields.decFull .reader f d pos)
  | .nil, d, pos => Res.le_refl (.ok ([], d, pos))
  | .cons _ _ t r, d, pos =>
      Res.le_bind (Ty.decFull_mode base t d pos) fun (_, d1, p1) => Res.le_bind_left (Fields.decFull_mode base r d1 p1)
theorem Variants.decFull_mode (base : Nat) : ∀ (vs : Variants) (orig i : Nat) (d : B) (pos : Nat),
    Res.le (Variants.decFull (.slice base) vs orig i d pos) (Variants.decFull .reader vs orig i d pos)
  | .nil, orig, _, _, _ => Res.le_refl (.err (.invalidTag orig))
  | .cons _ fs _, _, 0, d, pos => Res.le_bind_left (Fields.decFull_mode base fs d pos)
  | .cons _ _ r, orig, i+1, d, pos => Variants.decFull_mode base r orig i d pos
end

/-- `r`, if it is a value, leaves at most the bytes of `d`. -/
def Shr {α : Type} (d : B) (r : RRes α) : Prop := ∀ a d' p', r = .ok (a, d', p') → d'.length ≤ d.length

/-! `Shr d r` unfolds to `Post r fun _ d' _ => d'.length ≤ d.length`. -/

theorem Shr.ok {α : Type} (d : B) {a : α} {p : Nat} : Shr d (.ok (a, d, p)) := Post.ok (Nat.le_refl _)
theorem Shr.err {α : Type} (d : B) {e : Err} : Shr d (.err e : RRes α) := Post.err e
theorem Shr.panic {α : Type} (d : B) : Shr d (.panic : RRes α) := Post.panic

theorem Shr.bind {α β : Type} {d : B} {r : RRes α} {f : α × B × Nat → RRes β} (h : Shr d r)
    (hf : ∀ a d1 p1, Shr d1 (f (a, d1, p1))) : Shr d (r.bind f) :=
  Post.seq h fun a d1 p1 l1 => Post.mono (hf a d1 p1) fun _ _ _ l2 => Nat.le_trans l2 l1

theorem Shr.ite {α : Type} {d : B} {c : Prop} [Decidable c] {r r' : RRes α} (h : Shr d r) (h' : Shr d r') :
    Shr d (if c then r else r') :=
  Post.ite (fun _ => h) (fun _ => h')

/-- If the input fits a Rust slice, so does the rest. -/
theorem Shr.rest_le {α : Type} {d : B} {r : RRes α} (hs : Shr d r) {a : α} {d' : B} {p' n : Nat}
    (h : r = .ok (a, d', p')) (hd : d.length ≤ n) : d'.length ≤ n :=
  Nat.le_trans (hs a d' p' h) hd

theorem length_drop_le (n : Nat) (d : B) : (d.drop n).length ≤ d.length := by
  rw [List.length_drop]; exact Nat.sub_le _ _

theorem Shr.readExact (n : Nat) (d : B) (pos : Nat) : Shr d (readExact n d pos) :=
  Shr.ite (Post.ok (length_drop_le n d)) (Shr.err d)

theorem Shr.takeOrPanic (n : Nat) (d : B) (pos : Nat) : Shr d (takeOrPanic n d pos) :=
  Shr.ite (Post.ok (length_drop_le n d)) (Shr.panic d)

theorem Shr.readWord (w : Nat) (d : B) (pos : Nat) : Shr d (readWord w d pos) :=
  Shr.bind (Shr.readExact w d pos) fun _ d1 _ => Shr.ok d1

theorem Shr.alignRead (m : Mode) (u : Nat) (d : B) (pos : Nat) : Shr d (alignRead m u d pos) :=
  match m with
  | .reader => Shr.bind (Shr.readExact _ d pos) fun _ d1 _ => Shr.ok d1
  | .slice _ => Shr.bind (Shr.takeOrPanic _ d pos) fun _ d1 _ => Shr.ite (Shr.err d1) (Shr.ok d1)

theorem Shr.decMany {α : Type} (rd : B → Nat → RRes α) (h : ∀ d pos, Shr d (rd d pos)) :
    ∀ (n : Nat) (d : B) (pos : Nat), Shr d (decMany rd n d pos)
  | 0, d, _ => Shr.ok d
  | n+1, d, pos => Shr.bind (h d pos) fun _ d1 p1 => Shr.bind (Shr.decMany rd h n d1 p1) fun _ d2 _ => Shr.ok d2

theorem Shr.decFullVecZero (m : Mode) (t : Ty) (d : B) (pos : Nat) : Shr d (decFullVecZero m t d pos) :=
  Shr.bind (Shr.readWord 8 d pos) fun _ d1 p1 => Shr.bind (Shr.alignRead m _ d1 p1) fun _ d2 p2 =>
    Shr.ite (Shr.panic d2) (Shr.bind (Shr.readExact _ d2 p2) fun _ d3 _ => Shr.ok d3)

theorem Shr.decFullZero (m : Mode) (t : Ty) (d : B) (pos : Nat) : Shr d (decFullZero m t d pos) :=
  Shr.bind (Shr.alignRead m _ d pos) fun _ d1 p1 => Shr.bind (Shr.readExact _ d1 p1) fun _ d2 _ => Shr.ok d2

theorem Shr.decFullStr (d : B) (pos : Nat) : Shr d (decFullStr d pos) :=
  Shr.bind (Shr.readWord 8 d pos) fun _ d1 p1 =>
    Shr.ite (Shr.panic d1) (Shr.bind (Shr.readExact _ d1 p1) fun _ d2 _ => Shr.ite (Shr.ok d2) (Shr.panic d2))

theorem Shr.primFull (p : Prim) (d : B) (pos : Nat) : Shr d (p.decFull d pos) := by
  rw [Prim.decFull_eq]
  refine Shr.bind (Shr.readWord _ d pos) fun n d1 p1 => ?_
  dsimp only
  cases p.ofWord n with
  | ok v => exact Shr.ok d1
  | err e => exact Shr.err _
  | panic => exact Shr.panic _

mutual
theorem Ty.decFull_shr (m : Mode) : ∀ (t : Ty) (d : B) (pos : Nat), Shr d (Ty.decFull m t d pos)
  | .prim p, d, pos => Shr.primFull p d pos
  | .phantom _, d, _ | .rangeFull, d, _ => Shr.ok d
  | .string, d, pos | .boxStr, d, pos => Shr.decFullStr d pos
  | .vec t, d, pos | .boxSlice t, d, pos =>
      Shr.ite (Shr.bind (Shr.decFullVecZero m t d pos) fun _ d1 _ => Shr.ok d1)
        (Shr.bind (Shr.readWord 8 d pos) fun len d1 p1 =>
          Shr.bind (Shr.decMany _ (Ty.decFull_shr m t) len d1 p1) fun _ d2 _ => Shr.ok d2)
  | .array t n, d, pos =>
      Shr.ite (Shr.decFullZero m (.array t n) d pos)
        (Shr.bind (Shr.decMany _ (Ty.decFull_shr m t) n d pos) fun _ d2 _ => Shr.ok d2)
  | .tuple t n, d, pos => Shr.decFullZero m (.tuple t n) d pos
  | .option t, d, pos => by
      refine Shr.bind (Shr.readWord 1 d pos) fun tag d1 p1 => ?_
      match tag with
      | 0 => exact Shr.ok d1
      | 1 => exact Shr.bind (Ty.decFull_shr m t d1 p1) fun _ d2 _ => Shr.ok d2
      | _+2 => exact Shr.err _
  | .bound t, d, pos => by
      refine Shr.bind (Shr.readWord 1 d pos) fun tag d1 p1 => ?_
      match tag with
      | 0 => exact Shr.ok d1
      | 1 | 2 => exact Shr.bind (Ty.decFull_shr m t d1 p1) fun _ d2 _ => Shr.ok d2
      | _+3 => exact Shr.err _
  | .controlFlow b c, d, pos => by
      refine Shr.bind (Shr.readWord 1 d pos) fun tag d1 p1 => ?_
      match tag with
      | 0 => exact Shr.bind (Ty.decFull_shr m b d1 p1) fun _ d2 _ => Shr.ok d2
      | 1 => exact Shr.bind (Ty.decFull_shr m c d1 p1) fun _ d2 _ => Shr.ok d2
      | _+2 => exact Shr.err _
  | .range .range t, d, pos =>
      Shr.bind (Ty.decFull_shr m t d pos) fun _ d1 p1 => Shr.bind (Ty.decFull_shr m t d1 p1) fun _ d2 _ => Shr.ok d2
  | .range .incl t, d, pos =>
      Shr.bind (Ty.decFull_shr m t d pos) fun _ d1 p1 => Shr.bind (Ty.decFull_shr m t d1 p1) fun _ d2 p2 =>
        Shr.bind (Shr.readWord 1 d2 p2) fun _ d3 _ => Shr.ite (Shr.panic d3) (Shr.ok d3)
  | .range .from t, d, pos | .range .to t, d, pos | .range .toIncl t, d, pos =>
      Shr.bind (Ty.decFull_shr m t d pos) fun _ d1 _ => Shr.ok d1
  | .adt mt vs, d, pos => by
      rw [Ty.decFull_adt]
      refine Shr.ite (Shr.decFullZero m _ d pos)
        (Shr.ite (Shr.bind (Shr.readWord 8 d pos) fun tag d1 p1 => Variants.decFull_shr m vs tag tag d1 p1) ?_)
      match vs with
      | .cons _ fds .nil => exact Shr.bind (Fields.decFull_shr m fds d pos) fun _ d1 _ => Shr.ok d1
      | .nil | .cons _ _ (.cons _ _ _) => exact Shr.panic _
  | .sliceRef _, d, _ | .serIter _, d, _ => Shr.panic d
theorem Fields.decFull_shr (m : Mode) : ∀ (f : Fields) (d : B) (pos : Nat), Shr d (Fields.decFull m f d pos)
  | .nil, d, _ => Shr.ok d
  | .cons _ _ t r, d, pos =>
      Shr.bind (Ty.decFull_shr m t d pos) fun _ d1 p1 => Shr.bind (Fields.decFull_shr m r d1 p1) fun _ d2 _ => Shr.ok d2
theorem Variants.decFull_shr (m : Mode) : ∀ (vs : Variants) (orig i : Nat) (d : B) (pos : Nat), Shr d (Variants.decFull m vs orig i d pos)
  | .nil, _, _, d, _ => Shr.err d
  | .cons _ fs _, _, 0, d, pos => Shr.bind (Fields.decFull_shr m fs d pos) fun _ d1 _ => Shr.ok d1
  | .cons _ _ r, orig, i+1, d, pos => Variants.decFull_shr m r orig i d pos
end

mutual
/-- every borrowed `&str` of the result holds valid UTF-8 -/
def EVal.strsValid : EVal → Prop
  | .bStr _ b => validUtf8 b = true
  | .seq vs => EVal.strsValidList vs
  | .variant _ vs => EVal.strsValidList vs
  | .record vs => EVal.strsValidList vs
  | _ => True
def EVal.strsValidList : List EVal → Prop
  | [] => True
  | e :: es => e.strsValid ∧ EVal.strsValidList es
end

/-! The zero-copy steps: what the ε-copy step borrows, the full-copy step copies. In each of them an
    `align` and an indexing `data[..n]` of the slice face an `align` and a `read_exact` of the reader
    (`alignRead_mode`, `takeOrPanic_le`). The ε-copy steps refuse lengths from 2^64 on, the full-copy steps
    lengths above `isize::MAX`: no length that the input provides lies in between, the input being a Rust slice. -/

/-- `deserialize_eps_slice_zero` versus `deserialize_full_vec_zero`. -/
theorem sliceZero_agree (base : Nat) (t : Ty) (d : B) (pos : Nat) (hd : d.length ≤ isizeMax) :
    Post (decEpsSliceZero base t d pos) fun (_, _, vs) d' p' => decFullVecZero .reader t d pos = .ok (vs, d', p') := by
  unfold decEpsSliceZero decFullVecZero
  refine Post.bind fun len d1 p1 h1 => ?_
  simp only [h1, Res.bind_ok]
  refine Post.ite (fun _ => Post.panic) fun _ => Post.bind fun _ d2 p2 h2 => Post.bind fun b d3 p3 h3 => Post.ok ?_
  have hd2 : d2.length ≤ isizeMax := (Shr.alignRead _ _ d1 p1).rest_le h2 ((Shr.readWord 8 d pos).rest_le h1 hd)
  have hnot : ¬ len * t.sizeOf > isizeMax := Nat.not_lt.mpr (Nat.le_trans (takeOrPanic_ok h3).1 hd2)
  simp only [alignRead_mode base _ d1 p1 _ h2, Res.bind_ok, if_neg hnot, takeOrPanic_le _ d2 p2 _ h3]

/-- strings: the ε-copy reader borrows the bytes as they are, the full-copy reader validates them. -/
theorem str_agree (base : Nat) (d : B) (pos : Nat) (hd : d.length ≤ isizeMax) :
    Post (decEpsSliceZero base (.prim (.int .u8)) d pos) fun (_, b, _) d' p' =>
      validUtf8 b = true → decFullStr d pos = .ok (.str b, d', p') := by
  have hu : (Ty.prim (.int .u8)).maxSizeOf = 1 ∧ (Ty.prim (.int .u8)).sizeOf = 1 := ⟨rfl, rfl⟩
  unfold decEpsSliceZero decFullStr
  refine Post.bind fun len d1 p1 h1 => ?_
  simp only [h1, Res.bind_ok, hu.1, hu.2, Nat.mul_one, alignRead_one]
  refine Post.ite (fun _ => Post.panic) fun _ => Post.bind fun b d2 p2 h2 => Post.ok fun hb => ?_
  have hd1 : d1.length ≤ isizeMax := (Shr.readWord 8 d pos).rest_le h1 hd
  have hnot : ¬ len > isizeMax := Nat.not_lt.mpr (Nat.le_trans (takeOrPanic_ok h2).1 hd1)
  simp only [if_neg hnot, takeOrPanic_le _ d1 p1 _ h2, Res.bind_ok, hb, if_true]

/-- `deserialize_eps_zero` versus `deserialize_full_zero`. -/
theorem zero_agree (base : Nat) (t : Ty) (d : B) (pos : Nat) :
    Post (decEpsZero base t d pos) fun e d' p' => decFullZero .reader t d pos = .ok (e.erase, d', p') := by
  unfold decEpsZero decFullZero
  refine Post.bind fun _ d1 p1 h1 => ?_
  simp only [alignRead_mode base _ d pos _ h1, Res.bind_ok]
  refine Post.ite (fun hz => Post.ok ?_) fun _ => Post.bind fun b d2 p2 h2 => Post.ok ?_
  · rw [eq_of_beq hz, readExact_of_le (Nat.zero_le _)]; rfl
  · simp only [takeOrPanic_le _ d1 p1 _ h2, Res.bind_ok, EVal.erase]

theorem prim_agree (p : Prim) (d : B) (pos : Nat) : Post (p.decEps d pos) fun v d' p' =>
    p.decFull d pos = .ok (v, d', p') ∧ (v = .unit ∨ ∃ n, v = .bits n) := by
  rw [Prim.decEps_eq, Prim.decFull_eq]
  refine Post.bind fun b d1 p1 h1 => ?_
  simp only [readWord, takeOrPanic_le _ d pos _ h1, Res.bind_ok]
  cases hv : p.ofWord (leVal b) with
  | ok v => exact Post.ok ⟨rfl, Prim.ofWord_shape hv⟩
  | err e => exact Post.err e
  | panic => exact Post.panic

theorem decMany_agree {base : Nat} (t : Ty)
    (ih : ∀ d pos, d.length ≤ isizeMax → Post (Ty.decEps base t d pos) fun e d' p' =>
      e.strsValid → Ty.decFull .reader t d pos = .ok (e.erase, d', p')) (n : Nat) (d : B) (pos : Nat) (hd : d.length ≤ isizeMax) :
    Post (decMany (Ty.decEps base t) n d pos) fun es d' p' =>
      EVal.strsValidList es → decMany (Ty.decFull .reader t) n d pos = .ok (EVal.eraseList es, d', p') :=
  Post.mono (Post.decMany
    (R := fun n d pos es d' p' => d.length ≤ isizeMax → EVal.strsValidList es →
      decMany (Ty.decFull .reader t) n d pos = .ok (EVal.eraseList es, d', p'))
    (fun _ _ _ _ => rfl)
    (fun _ d pos a d1 p1 _ _ _ h1 ih2 hd hs =>
      have r1 := ih d pos hd a d1 p1 h1 hs.1
      have r2 := ih2 ((Ty.decFull_shr .reader t d pos).rest_le r1 hd) hs.2
      Res.bind_eq_of r1 (Res.bind_eq_of r2 rfl))
    n d pos) fun _ _ _ h => h hd

mutual
/-- If the ε-copy reader returns a result (whose borrowed strings are valid UTF-8), the full-copy reader returns
    the value it describes. Each case takes the run of the ε-copy reader apart (`Post.bind`, `Post.ite`) and retraces
    it with the full-copy reader (`Res.bind_eq_of`, `if_pos`); what remains is true by evaluating `erase`.
    Where the input `d` has to fit a Rust slice, so has the rest `d1` that a first step leaves to the next: it is no
    longer than `d`, the full-copy reader having left it too (`Ty.decFull_shr`). -/
theorem Ty.eps_full_agree (base : Nat) : ∀ (t : Ty) (d : B) (pos : Nat), d.length ≤ isizeMax →
    Post (t.decEps base d pos) fun e d' p' => e.strsValid → t.decFull .reader d pos = .ok (e.erase, d', p')
  | .prim p, d, pos, _ =>
      Post.bind fun v d1 p1 h1 => Post.ok fun _ => by
        obtain ⟨r, rfl | ⟨n, rfl⟩⟩ := prim_agree p d pos v d1 p1 h1 <;> exact r
  | .phantom _, _, _, _ | .rangeFull, _, _, _ => Post.ok fun _ => rfl
  | .string, d, pos, hd | .boxStr, d, pos, hd => Post.seq (str_agree base d pos hd) fun _ _ _ h => Post.ok h
  | .vec t, d, pos, hd | .boxSlice t, d, pos, hd =>
      Post.ite
        (fun hz => Post.bind fun (off, b, vs) d1 p1 h1 => Post.ok fun _ =>
          (if_pos hz).trans (Res.bind_eq_of (sliceZero_agree base t d pos hd _ d1 p1 h1) rfl))
        (fun hz => Post.bind fun len d1 p1 h1 => Post.bind fun es d2 p2 h2 => Post.ok fun hs =>
          have hd1 := (Shr.readWord 8 d pos).rest_le h1 hd
          (if_neg hz).trans (Res.bind_eq_of h1 (Res.bind_eq_of
            (decMany_agree t (Ty.eps_full_agree base t) len d1 p1 hd1 es d2 p2 h2 hs) rfl)))
  | .array t n, d, pos, hd =>
      Post.ite
        (fun hz => Post.bind fun _ d1 p1 h1 => Post.bind fun b d2 p2 h2 => Post.ok fun _ =>
          (if_pos hz).trans (Res.bind_eq_of (alignRead_mode base _ d pos _ h1) (Res.bind_eq_of (takeOrPanic_le _ d1 p1 _ h2)
            (by unfold Ty.fromMem; rfl))))
        (fun hz => Post.bind fun es d2 p2 h2 => Post.ok fun hs =>
          (if_neg hz).trans (Res.bind_eq_of (decMany_agree t (Ty.eps_full_agree base t) n d pos hd es d2 p2 h2 hs) rfl))
  | .tuple t n, d, pos, _ => Post.mono (zero_agree base (.tuple t n) d pos) fun _ _ _ h _ => h
  | .option t, d, pos, hd => by
      refine Post.bind fun tag d1 p1 h1 => ?_
      have hd1 := (Shr.readWord 1 d pos).rest_le h1 hd
      match tag with
      | 0 => exact Post.ok fun _ => Res.bind_eq_of h1 rfl
      | 1 => exact Post.bind fun x d2 p2 h2 => Post.ok fun hs =>
          Res.bind_eq_of h1 (Res.bind_eq_of (Ty.eps_full_agree base t d1 p1 hd1 x d2 p2 h2 hs.1) rfl)
      | _+2 => exact Post.err _
  | .bound t, d, pos, hd => by
      refine Post.bind fun tag d1 p1 h1 => ?_
      have hd1 := (Shr.readWord 1 d pos).rest_le h1 hd
      match tag with
      | 0 => exact Post.ok fun _ => Res.bind_eq_of h1 rfl
      | 1 | 2 => exact Post.bind fun x d2 p2 h2 => Post.ok fun hs =>
          Res.bind_eq_of h1 (Res.bind_eq_of (Ty.eps_full_agree base t d1 p1 hd1 x d2 p2 h2 hs.1) rfl)
      | _+3 => exact Post.err _
  | .controlFlow bt ct, d, pos, hd => by
      refine Post.bind fun tag d1 p1 h1 => ?_
      have hd1 := (Shr.readWord 1 d pos).rest_le h1 hd
      match tag with
      | 0 => exact Post.bind fun x d2 p2 h2 => Post.ok fun hs =>
          Res.bind_eq_of h1 (Res.bind_eq_of (Ty.eps_full_agree base bt d1 p1 hd1 x d2 p2 h2 hs.1) rfl)
      | 1 => exact Post.bind fun x d2 p2 h2 => Post.ok fun hs =>
          Res.bind_eq_of h1 (Res.bind_eq_of (Ty.eps_full_agree base ct d1 p1 hd1 x d2 p2 h2 hs.1) rfl)
      | _+2 => exact Post.err _
  | .range .range t, d, pos, hd =>
      Post.bind fun a d1 p1 h1 => Post.bind fun b d2 p2 h2 => Post.ok fun hs =>
        have r1 := Ty.eps_full_agree base t d pos hd a d1 p1 h1 hs.1
        have r2 := Ty.eps_full_agree base t d1 p1 ((Ty.decFull_shr .reader t d pos).rest_le r1 hd) b d2 p2 h2 hs.2.1
        Res.bind_eq_of r1 (Res.bind_eq_of r2 rfl)
  | .range .incl t, d, pos, hd =>
      Post.bind fun a d1 p1 h1 => Post.bind fun b d2 p2 h2 => Post.bind fun ex d3 p3 h3 =>
        Post.ite (fun _ => Post.panic) fun hex => Post.ok fun hs =>
          have r1 := Ty.eps_full_agree base t d pos hd a d1 p1 h1 hs.1
          have r2 := Ty.eps_full_agree base t d1 p1 ((Ty.decFull_shr .reader t d pos).rest_le r1 hd) b d2 p2 h2 hs.2.1
          Res.bind_eq_of r1 (Res.bind_eq_of r2 (Res.bind_eq_of h3 (if_neg hex)))
  | .range .from t, d, pos, hd | .range .to t, d, pos, hd | .range .toIncl t, d, pos, hd =>
      Post.bind fun a d1 p1 h1 => Post.ok fun hs => Res.bind_eq_of (Ty.eps_full_agree base t d pos hd a d1 p1 h1 hs.1) rfl
  | .adt mt vs, d, pos, hd => by
      rw [Ty.decEps_adt, Ty.decFull_adt]
      refine Post.ite (fun hz => ?_) fun hz => Post.ite (fun he => ?_) fun he => ?_
      · rw [if_pos hz]
        exact Post.mono (zero_agree base _ d pos) fun _ _ _ h _ => h
      · rw [if_neg hz, if_pos he]
        exact Post.bind fun tag d1 p1 h1 =>
          Post.mono (Variants.eps_full_agree base vs tag tag d1 p1 ((Shr.readWord 8 d pos).rest_le h1 hd))
            fun _ _ _ h hs => Res.bind_eq_of h1 (h hs)
      · rw [if_neg hz, if_neg he]
        match vs with
        | .cons _ fds .nil =>
          exact Post.bind fun es d1 p1 h1 => Post.ok fun hs =>
            Res.bind_eq_of (Fields.eps_full_agree base fds d pos hd es d1 p1 h1 hs) rfl
        | .nil | .cons _ _ (.cons _ _ _) => exact Post.panic
  | .sliceRef _, _, _, _ | .serIter _, _, _, _ => Post.panic
theorem Fields.eps_full_agree (base : Nat) : ∀ (f : Fields) (d : B) (pos : Nat), d.length ≤ isizeMax →
    Post (f.decEps base d pos) fun es d' p' =>
      EVal.strsValidList es → f.decFull .reader d pos = .ok (EVal.eraseList es, d', p')
  | .nil, _, _, _ => Post.ok fun _ => rfl
  | .cons _ viaEps t r, d, pos, hd =>
      Post.bind fun x d1 p1 h1 => Post.bind fun xs d2 p2 h2 => Post.ok fun hs =>
        have r1 : Ty.decFull .reader t d pos = .ok (x.erase, d1, p1) := by
          cases viaEps with
          | true => exact Ty.eps_full_agree base t d pos hd x d1 p1 h1 hs.1
          | false =>
            -- the field is read by the full-copy reader on the slice
            obtain ⟨⟨v, d0, p0⟩, h5, h6⟩ := Res.bind_eq_ok h1
            cases h6
            exact Ty.decFull_mode base t d pos _ h5
        have r2 := Fields.eps_full_agree base r d1 p1 ((Ty.decFull_shr .reader t d pos).rest_le r1 hd) xs d2 p2 h2 hs.2
        Res.bind_eq_of r1 (Res.bind_eq_of r2 rfl)
theorem Variants.eps_full_agree (base : Nat) : ∀ (vs : Variants) (orig i : Nat) (d : B) (pos : Nat), d.length ≤ isizeMax →
    Post (vs.decEps base orig i d pos) fun e d' p' => e.strsValid → vs.decFull .reader orig i d pos = .ok (e.erase, d', p')
  | .nil, _, _, _, _, _ => Post.err _
  | .cons _ fs _, _, 0, d, pos, hd =>
      Post.bind fun es d1 p1 h1 => Post.ok fun hs => Res.bind_eq_of (Fields.eps_full_agree base fs d pos hd es d1 p1 h1 hs) rfl
  | .cons _ _ r, orig, i+1, d, pos, hd => Variants.eps_full_agree base r orig i d pos hd
end

/-- **ε-copy and full copy agree on arbitrary bytes**: if the ε-copy reader returns a result (whose
    borrowed strings are valid UTF-8), the full-copy reader returns the value it describes. -/
theorem Ty.eps_full (base : Nat) : ∀ (t : Ty) (d : B) (pos : Nat) (e : EVal) (d' : B) (p' : Nat),
    d.length ≤ isizeMax → t.decEps base d pos = .ok (e, d', p') → e.strsValid →
    t.decFull .reader d pos = .ok (e.erase, d', p') ∧ d'.length ≤ d.length :=
  fun t d pos e d' p' hd h hs =>
    have r := Ty.eps_full_agree base t d pos hd e d' p' h hs
    ⟨r, Ty.decFull_shr .reader t d pos _ _ _ r⟩
theorem Fields.eps_full (base : Nat) : ∀ (f : Fields) (d : B) (pos : Nat) (es : List EVal) (d' : B) (p' : Nat),
    d.length ≤ isizeMax → f.decEps base d pos = .ok (es, d', p') → EVal.strsValidList es →
    f.decFull .reader d pos = .ok (EVal.eraseList es, d', p') ∧ d'.length ≤ d.length :=
  fun f d pos es d' p' hd h hs =>
    have r := Fields.eps_full_agree base f d pos hd es d' p' h hs
    ⟨r, Fields.decFull_shr .reader f d pos _ _ _ r⟩
theorem Variants.eps_full (base : Nat) : ∀ (vs : Variants) (orig i : Nat) (d : B) (pos : Nat) (e : EVal) (d' : B) (p' : Nat),
    d.length ≤ isizeMax → vs.decEps base orig i d pos = .ok (e, d', p') → e.strsValid →
    vs.decFull .reader orig i d pos = .ok (e.erase, d', p') ∧ d'.length ≤ d.length :=
  fun vs orig i d pos e d' p' hd h hs =>
    have r := Variants.eps_full_agree base vs orig i d pos hd e d' p' h hs
    ⟨r, Variants.decFull_shr .reader vs orig i d pos _ _ _ r⟩

theorem Shr.checkHeader (th ah : Nat) (d : B) (pos : Nat) : Shr d (checkHeader th ah d pos) :=
  Shr.bind (Shr.readWord 8 d pos) fun _ d1 p1 => Shr.ite (Shr.ite (Shr.err d1) (Shr.err d1)) <|
  Shr.bind (Shr.readWord 2 d1 p1) fun _ d2 p2 => Shr.ite (Shr.err d2) <|
  Shr.bind (Shr.readWord 2 d2 p2) fun _ d3 p3 => Shr.ite (Shr.err d3) <|
  Shr.bind (Shr.readWord 1 d3 p3) fun _ d4 p4 => Shr.ite (Shr.err d4) <|
  Shr.bind (Shr.readWord 8 d4 p4) fun _ d5 p5 => Shr.bind (Shr.readWord 8 d5 p5) fun _ d6 p6 =>
  Shr.bind (Shr.decFullStr d6 p6) fun _ d7 _ => Shr.ite (Shr.err d7) (Shr.ite (Shr.err d7) (Shr.ok d7))

end Eps
