/-
  The clauses of the codec definitions in usable form. `enc`, `toMem` and `blocks` are defined by
  one nested match on (type, value) with a catch-all; the equations Lean generates for them are
  conditional for the catch-all and split the derived-type clause on the shape of the variant
  list (as they do for the readers, which match on the type alone). Here: the clause for one type
  constructor and an arbitrary value, and the derived-type clause in one piece, then under what is
  known of the attributes. Where the patterns of the clause only name the constructor of the
  value, both sides compute once that constructor is known (`cases v`, unfold); where they go
  deeper (a tag and a list of given length, a range kind) the catch-all equation is needed, and is
  spent once, inside these proofs (the last case of `split`, by `simp_all`).
-/
import EpsModel.Blocks
namespace Eps

theorem Ty.toMem_array (t : Ty) (n : Nat) (v : Val) :
    (Ty.array t n).toMem v = match v with | .seq vs => Ty.toMemList t vs | _ => [] := by
  cases v <;> (unfold Ty.toMem; rfl)

theorem Ty.toMem_tuple (t : Ty) (n : Nat) (v : Val) :
    (Ty.tuple t n).toMem v = match v with | .seq vs => Ty.toMemList t vs | _ => [] := by
  cases v <;> (unfold Ty.toMem; rfl)

theorem Ty.toMem_range (k : RangeK) (t : Ty) (v : Val) :
    (Ty.range k t).toMem v = match k, v with
      | .to, .record [a] | .toIncl, .record [a] => t.toMem a
      | _, _ => [] := by
  split
  · rw [Ty.toMem]
  · rw [Ty.toMem]
  · simp_all [Ty.toMem]

theorem Ty.toMem_adt (m : AdtMeta) (vs : Variants) (v : Val) :
    (Ty.adt m vs).toMem v = match v with
      | .record fs =>
          (match vs with
           | .cons _ fds .nil => Fields.toMem fds fs 0 ++ zeros (Ty.sizeOf (.adt m vs) - (Fields.toMem fds fs 0).length)
           | _ => [])
      | .variant i fs =>
          let body := leBytes 4 i ++ zeros (roundUp 4 (Variants.maxAlign vs) - 4) ++ Variants.toMem vs i fs
          body ++ zeros (Ty.sizeOf (.adt m vs) - body.length)
      | _ => [] := by
  cases v <;> (unfold Ty.toMem; rfl)

theorem Ty.enc_phantom (t : Ty) (v : Val) (pos : Nat) : (Ty.phantom t).enc v pos = [] := by
  unfold Ty.enc; rfl

theorem Ty.enc_vec (t : Ty) (v : Val) (pos : Nat) :
    (Ty.vec t).enc v pos = match v with | .seq vs => Ty.encSeq t vs pos | _ => [] := by
  cases v <;> (unfold Ty.enc; rfl)

theorem Ty.enc_boxSlice (t : Ty) : (Ty.boxSlice t).enc = (Ty.vec t).enc := by
  funext v pos; cases v <;> (unfold Ty.enc; rfl)

theorem Ty.enc_sliceRef (t : Ty) : (Ty.sliceRef t).enc = (Ty.vec t).enc := by
  funext v pos; cases v <;> (unfold Ty.enc; rfl)

theorem Ty.enc_serIter (t : Ty) : (Ty.serIter t).enc = (Ty.vec t).enc := by
  funext v pos; cases v <;> (unfold Ty.enc; rfl)

theorem Ty.enc_array (t : Ty) (n : Nat) (v : Val) (pos : Nat) :
    (Ty.array t n).enc v pos = match v with
      | .seq vs => if t.isZC then zeros (pad pos t.maxSizeOf) ++ Ty.toMemList t vs else Ty.encList t vs pos
      | _ => [] := by
  cases v <;> (unfold Ty.enc; rfl)

theorem Ty.enc_tuple (t : Ty) (n : Nat) (v : Val) (pos : Nat) :
    (Ty.tuple t n).enc v pos = match v with
      | .seq vs => zeros (pad pos t.maxSizeOf) ++ Ty.toMemList t vs
      | _ => [] := by
  cases v <;> (unfold Ty.enc; rfl)

theorem Ty.enc_option (t : Ty) (v : Val) (pos : Nat) :
    (Ty.option t).enc v pos = match v with
      | .variant 0 [] => [0]
      | .variant 1 [x] => 1 :: t.enc x (pos + 1)
      | _ => [] := by
  split
  · rw [Ty.enc]
  · rw [Ty.enc]
  · simp_all [Ty.enc]

theorem Ty.enc_bound (t : Ty) (v : Val) (pos : Nat) :
    (Ty.bound t).enc v pos = match v with
      | .variant 0 [] => [0]
      | .variant 1 [x] => 1 :: t.enc x (pos + 1)
      | .variant 2 [x] => 2 :: t.enc x (pos + 1)
      | _ => [] := by
  split
  · rw [Ty.enc]
  · rw [Ty.enc]
  · rw [Ty.enc]
  · simp_all [Ty.enc]

theorem Ty.enc_controlFlow (b c : Ty) (v : Val) (pos : Nat) :
    (Ty.controlFlow b c).enc v pos = match v with
      | .variant 0 [x] => 0 :: b.enc x (pos + 1)
      | .variant 1 [x] => 1 :: c.enc x (pos + 1)
      | _ => [] := by
  split
  · rw [Ty.enc]
  · rw [Ty.enc]
  · simp_all [Ty.enc]

theorem Ty.enc_range (k : RangeK) (t : Ty) (v : Val) (pos : Nat) :
    (Ty.range k t).enc v pos = match k, v with
      | .range, .record [a, b] => t.enc a pos ++ t.enc b (pos + (t.enc a pos).length)
      | .incl, .record [a, b] => t.enc a pos ++ t.enc b (pos + (t.enc a pos).length) ++ [0]
      | .from, .record [a] | .to, .record [a] | .toIncl, .record [a] => t.enc a pos
      | _, _ => [] := by
  split
  · rw [Ty.enc]
  · rw [Ty.enc]
  · rw [Ty.enc]
  · rw [Ty.enc]
  · rw [Ty.enc]
  · simp_all [Ty.enc]

theorem Ty.enc_adt (m : AdtMeta) (vs : Variants) (v : Val) (pos : Nat) :
    (Ty.adt m vs).enc v pos = match v with
      | .record fs =>
          if m.zero then zeros (pad pos (Ty.maxSizeOf (.adt m vs))) ++ Ty.toMem (.adt m vs) v
          else (match vs with | .cons _ fds .nil => Fields.enc fds fs pos | _ => [])
      | .variant i fs =>
          if m.zero then zeros (pad pos (Ty.maxSizeOf (.adt m vs))) ++ Ty.toMem (.adt m vs) v
          else leBytes 8 i ++ Variants.enc vs i fs (pos + 8)
      | _ => [] := by
  cases v <;> (unfold Ty.enc; rfl)

theorem Ty.blocks_adt (m : AdtMeta) (vs : Variants) (v : Val) (pos : Nat) :
    (Ty.adt m vs).blocks v pos = match v with
      | .record fs =>
          if m.zero then [⟨pos + pad pos (Ty.maxSizeOf (.adt m vs)), (Ty.toMem (.adt m vs) v).length, Ty.maxSizeOf (.adt m vs)⟩]
          else (match vs with | .cons _ fds .nil => Fields.blocks fds fs pos | _ => [])
      | .variant i fs =>
          if m.zero then [⟨pos + pad pos (Ty.maxSizeOf (.adt m vs)), (Ty.toMem (.adt m vs) v).length, Ty.maxSizeOf (.adt m vs)⟩]
          else Variants.blocks vs i fs (pos + 8)
      | _ => [] := by
  cases v <;> (unfold Ty.blocks; rfl)

theorem Ty.decFull_adt (md : Mode) (m : AdtMeta) (vs : Variants) (d : B) (pos : Nat) :
    Ty.decFull md (.adt m vs) d pos =
      if m.zero then decFullZero md (.adt m vs) d pos
      else if m.isEnum then
        (readWord 8 d pos).bind fun (tag, d, pos) => Variants.decFull md vs tag tag d pos
      else match vs with
        | .cons _ fds .nil => (Fields.decFull md fds d pos).bind fun (fs, d, pos) => .ok (.record fs, d, pos)
        | _ => .panic := by
  unfold Ty.decFull; rfl

theorem Ty.decEps_adt (base : Nat) (m : AdtMeta) (vs : Variants) (d : B) (pos : Nat) :
    Ty.decEps base (.adt m vs) d pos =
      if m.zero then decEpsZero base (.adt m vs) d pos
      else if m.isEnum then
        (readWord 8 d pos).bind fun (tag, d, pos) => Variants.decEps base vs tag tag d pos
      else match vs with
        | .cons _ fds .nil => (Fields.decEps base fds d pos).bind fun (fs, d, pos) => .ok (.record fs, d, pos)
        | _ => .panic := by
  unfold Ty.decEps; rfl

theorem Ty.enc_adt_zero (m : AdtMeta) (vs : Variants) (fs : List Val) (pos : Nat) (h : m.zero = true) :
    Ty.enc (.adt m vs) (.record fs) pos
      = zeros (pad pos (Ty.maxSizeOf (.adt m vs))) ++ Ty.toMem (.adt m vs) (.record fs) := by
  simp only [Ty.enc_adt, h, if_true]

theorem Ty.enc_adt_zero_variant (m : AdtMeta) (vs : Variants) (i : Nat) (fs : List Val) (pos : Nat) (h : m.zero = true) :
    Ty.enc (.adt m vs) (.variant i fs) pos
      = zeros (pad pos (Ty.maxSizeOf (.adt m vs))) ++ Ty.toMem (.adt m vs) (.variant i fs) := by
  simp only [Ty.enc_adt, h, if_true]

theorem Ty.enc_adt_enum (m : AdtMeta) (vs : Variants) (i : Nat) (fs : List Val) (pos : Nat) (h : m.zero = false) :
    Ty.enc (.adt m vs) (.variant i fs) pos = leBytes 8 i ++ Variants.enc vs i fs (pos + 8) := by
  simp only [Ty.enc_adt, h, Bool.false_eq_true, if_false]

theorem Ty.blocks_adt_zero (m : AdtMeta) (vs : Variants) (fs : List Val) (pos : Nat) (h : m.zero = true) :
    Ty.blocks (.adt m vs) (.record fs) pos
      = [⟨pos + pad pos (Ty.maxSizeOf (.adt m vs)), (Ty.toMem (.adt m vs) (.record fs)).length, Ty.maxSizeOf (.adt m vs)⟩] := by
  simp only [Ty.blocks_adt, h, if_true]

theorem Ty.blocks_adt_zero_variant (m : AdtMeta) (vs : Variants) (i : Nat) (fs : List Val) (pos : Nat) (h : m.zero = true) :
    Ty.blocks (.adt m vs) (.variant i fs) pos
      = [⟨pos + pad pos (Ty.maxSizeOf (.adt m vs)), (Ty.toMem (.adt m vs) (.variant i fs)).length, Ty.maxSizeOf (.adt m vs)⟩] := by
  simp only [Ty.blocks_adt, h, if_true]

theorem Ty.blocks_adt_enum (m : AdtMeta) (vs : Variants) (i : Nat) (fs : List Val) (pos : Nat) (h : m.zero = false) :
    Ty.blocks (.adt m vs) (.variant i fs) pos = Variants.blocks vs i fs (pos + 8) := by
  simp only [Ty.blocks_adt, h, Bool.false_eq_true, if_false]

theorem Ty.decFull_adt_zero (md : Mode) (m : AdtMeta) (vs : Variants) (d : B) (pos : Nat) (h : m.zero = true) :
    Ty.decFull md (.adt m vs) d pos = decFullZero md (.adt m vs) d pos := by
  rw [Ty.decFull_adt, if_pos h]

theorem Ty.decFull_adt_enum (md : Mode) (m : AdtMeta) (vs : Variants) (d : B) (pos : Nat)
    (h : m.zero = false) (he : m.isEnum = true) :
    Ty.decFull md (.adt m vs) d pos
      = (readWord 8 d pos).bind fun (tag, d, pos) => Variants.decFull md vs tag tag d pos := by
  rw [Ty.decFull_adt, if_neg (ne_true_of_eq_false h), if_pos he]

theorem Ty.decEps_adt_zero (base : Nat) (m : AdtMeta) (vs : Variants) (d : B) (pos : Nat) (h : m.zero = true) :
    Ty.decEps base (.adt m vs) d pos = decEpsZero base (.adt m vs) d pos := by
  rw [Ty.decEps_adt, if_pos h]

theorem Ty.decEps_adt_enum (base : Nat) (m : AdtMeta) (vs : Variants) (d : B) (pos : Nat)
    (h : m.zero = false) (he : m.isEnum = true) :
    Ty.decEps base (.adt m vs) d pos
      = (readWord 8 d pos).bind fun (tag, d, pos) => Variants.decEps base vs tag tag d pos := by
  rw [Ty.decEps_adt, if_neg (ne_true_of_eq_false h), if_pos he]

/-- A well-typed value of a zero-copy struct or enum is written as one block: padding, then its memory. -/
theorem Ty.enc_blocks_zeroAdt {m : AdtMeta} {vs : Variants} {v : Val} (hz : m.zero = true)
    (hv : (Ty.adt m vs).wt v = true) (pos : Nat) :
    (Ty.adt m vs).enc v pos = zeros (pad pos (Ty.adt m vs).maxSizeOf) ++ (Ty.adt m vs).toMem v ∧
    (Ty.adt m vs).blocks v pos
      = [⟨pos + pad pos (Ty.adt m vs).maxSizeOf, ((Ty.adt m vs).toMem v).length, (Ty.adt m vs).maxSizeOf⟩] := by
  cases v with
  | record fs => exact ⟨Ty.enc_adt_zero m vs fs pos hz, Ty.blocks_adt_zero m vs fs pos hz⟩
  | variant i fs => exact ⟨Ty.enc_adt_zero_variant m vs i fs pos hz, Ty.blocks_adt_zero_variant m vs i fs pos hz⟩
  | _ => unfold Ty.wt at hv; cases hv

end Eps
