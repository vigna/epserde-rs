/-
  What the ε-copy reader allocates is a function of the type and of the deep-copy skeleton of the
  value it returns, on arbitrary bytes: `epsAllocs e = t.allocOf e.erase` for every result `e` of
  `t.decEps`. The bytes play no part in it: the equation holds of every `e` of the documented shape
  (`Ty.Conforms.alloc`, by induction on the type), and results have that shape (`Ty.decEps_conforms`).
-/
import EpsModel.Alloc
import EpsModel.Lemmas.ConformL
namespace Eps
open Eps.C03

/-! ### Clauses of `Ty.allocOf`

Each is proved by `unfold` (every occurrence) or `rw [Ty.allocOf.eq_def]` (the left one). `simp only [Ty.allocOf]`
would have Lean derive the equation lemmas of `Ty.allocOf`, one case split per overlapping pattern, and do so again in
every proof that asks for them: slow, and the reason these clauses are stated here once. -/

theorem Ty.allocOf_prim (p : Prim) (v : Val) : (Ty.prim p).allocOf v = 0 := by unfold Ty.allocOf; rfl
theorem Ty.allocOf_phantom (t : Ty) (v : Val) : (Ty.phantom t).allocOf v = 0 := by unfold Ty.allocOf; rfl
theorem Ty.allocOf_string (v : Val) : Ty.string.allocOf v = 0 := by unfold Ty.allocOf; rfl
theorem Ty.allocOf_boxStr (v : Val) : Ty.boxStr.allocOf v = 0 := by unfold Ty.allocOf; rfl
theorem Ty.allocOf_tuple (t : Ty) (n : Nat) (v : Val) : (Ty.tuple t n).allocOf v = 0 := by unfold Ty.allocOf; rfl
theorem Ty.allocOf_rangeFull (v : Val) : Ty.rangeFull.allocOf v = 0 := by unfold Ty.allocOf; rfl

theorem Ty.allocOf_vec (t : Ty) (v : Val) :
    (Ty.vec t).allocOf v = if t.isZC then 0 else match v with
      | .seq vs => (if vs.isEmpty then 0 else 1) + Ty.allocOfList t vs
      | _ => 0 := by
  rw [Ty.allocOf.eq_def]; rfl
theorem Ty.allocOf_boxSlice (t : Ty) (v : Val) : (Ty.boxSlice t).allocOf v = (Ty.vec t).allocOf v := by
  unfold Ty.allocOf; rfl
theorem Ty.allocOf_array (t : Ty) (n : Nat) (v : Val) : (Ty.array t n).allocOf v = (Ty.vec t).allocOf v := by
  unfold Ty.allocOf; rfl

theorem Ty.allocOf_vec_zero (t : Ty) (v : Val) (h : t.isZC = true) : (Ty.vec t).allocOf v = 0 := by
  rw [Ty.allocOf_vec, if_pos h]
theorem Ty.allocOf_boxSlice_zero (t : Ty) (v : Val) (h : t.isZC = true) : (Ty.boxSlice t).allocOf v = 0 := by
  rw [Ty.allocOf_boxSlice, Ty.allocOf_vec_zero t v h]
theorem Ty.allocOf_array_zero (t : Ty) (n : Nat) (v : Val) (h : t.isZC = true) : (Ty.array t n).allocOf v = 0 := by
  rw [Ty.allocOf_array, Ty.allocOf_vec_zero t v h]

theorem Ty.allocOf_option (t : Ty) (v : Val) :
    (Ty.option t).allocOf v = match v with
      | .variant _ [x] => t.allocOf x
      | _ => 0 := by
  rw [Ty.allocOf.eq_def]; rfl
theorem Ty.allocOf_bound (t : Ty) (v : Val) : (Ty.bound t).allocOf v = (Ty.option t).allocOf v := by
  unfold Ty.allocOf; rfl

theorem Ty.allocOf_controlFlow (b c : Ty) (v : Val) :
    (Ty.controlFlow b c).allocOf v = match v with
      | .variant 0 [x] => b.allocOf x
      | .variant _ [x] => c.allocOf x
      | _ => 0 := by
  rw [Ty.allocOf.eq_def]; rfl

theorem Ty.allocOf_range (k : RangeK) (t : Ty) (v : Val) :
    (Ty.range k t).allocOf v = match v with
      | .record [a, b] => t.allocOf a + t.allocOf b
      | .record [a] => t.allocOf a
      | _ => 0 := by
  rw [Ty.allocOf.eq_def]; rfl

theorem Ty.allocOf_adt (m : AdtMeta) (vs : Variants) (v : Val) :
    (Ty.adt m vs).allocOf v =
      if m.zero then 0
      else if m.isEnum then match v with
        | .variant i fs => Variants.allocOf vs i fs
        | _ => 0
      else match vs, v with
        | .cons _ fds .nil, .record fs => Fields.allocOf fds fs
        | _, _ => 0 := by
  rw [Ty.allocOf.eq_def]; rfl

theorem Ty.allocOfList_cons (t : Ty) (v : Val) (vs : List Val) :
    Ty.allocOfList t (v :: vs) = t.allocOf v + Ty.allocOfList t vs := by
  rw [Ty.allocOfList.eq_def]

theorem Fields.allocOf_cons (n : B) (viaEps : Bool) (t : Ty) (r : Fields) (v : Val) (vs : List Val) :
    (Fields.cons n viaEps t r).allocOf (v :: vs) = (if viaEps then t.allocOf v else heapAllocs v) + r.allocOf vs := by
  rw [Fields.allocOf.eq_def]

/-! ### A result of the documented shape costs what `Ty.allocOf` says

In each case the shape of `e` is known: `epsAllocs e` and `e.erase` evaluate, and the clause of `Ty.allocOf` applies. -/

theorem eraseList_isEmpty (es : List EVal) : (EVal.eraseList es).isEmpty = es.isEmpty := by
  cases es <;> rfl

theorem allocs_eraseList {t : Ty} : ∀ {es : List EVal}, (∀ x ∈ es, epsAllocs x = t.allocOf x.erase) →
    epsAllocsList es = Ty.allocOfList t (EVal.eraseList es)
  | [], _ => by unfold Ty.allocOfList; rfl
  | e :: es, h => by
      show epsAllocs e + epsAllocsList es = Ty.allocOfList t (e.erase :: EVal.eraseList es)
      rw [Ty.allocOfList_cons, h e (List.mem_cons_self ..), allocs_eraseList fun x hx => h x (List.mem_cons_of_mem _ hx)]

/-- The deep clause of `Vec<T>`, `Box<[T]>`, `[T; N]`: one allocation unless empty, and the items'. -/
theorem allocs_seq {t : Ty} (hz : t.isZC = false) {es : List EVal} (h : ∀ x ∈ es, epsAllocs x = t.allocOf x.erase) :
    epsAllocs (.seq es) = (Ty.vec t).allocOf (EVal.seq es).erase := by
  rw [Ty.allocOf_vec, if_neg (Bool.eq_false_iff.mp hz)]
  show (if es.isEmpty then 0 else 1) + epsAllocsList es
    = (if (EVal.eraseList es).isEmpty then 0 else 1) + Ty.allocOfList t (EVal.eraseList es)
  rw [eraseList_isEmpty, allocs_eraseList h]

mutual
theorem Ty.Conforms.alloc : ∀ (t : Ty) (e : EVal), t.Conforms e → epsAllocs e = t.allocOf e.erase
  | .prim _, _, h => by rcases h with ⟨_, rfl⟩ | rfl <;> exact (Ty.allocOf_prim _ _).symm
  | .phantom _, _, h => by cases h; exact (Ty.allocOf_phantom _ _).symm
  | .string, _, h => by obtain ⟨_, _, rfl⟩ := h; exact (Ty.allocOf_string _).symm
  | .boxStr, _, h => by obtain ⟨_, _, rfl⟩ := h; exact (Ty.allocOf_boxStr _).symm
  | .vec t, _, h => by
      rcases h with ⟨hz, _, _, rfl⟩ | ⟨hz, es, rfl, hes⟩
      · exact (Ty.allocOf_vec_zero t _ hz).symm
      · exact allocs_seq hz fun x hx => Ty.Conforms.alloc t x (hes x hx)
  | .boxSlice t, _, h => by
      rcases h with ⟨hz, _, _, rfl⟩ | ⟨hz, es, rfl, hes⟩
      · exact (Ty.allocOf_boxSlice_zero t _ hz).symm
      · exact (allocs_seq hz fun x hx => Ty.Conforms.alloc t x (hes x hx)).trans (Ty.allocOf_boxSlice t _).symm
  | .array t n, _, h => by
      rcases h with ⟨hz, _, _, rfl⟩ | ⟨hz, es, rfl, hes⟩
      · exact (Ty.allocOf_array_zero t n _ hz).symm
      · exact (allocs_seq hz fun x hx => Ty.Conforms.alloc t x (hes x hx)).trans (Ty.allocOf_array t n _).symm
  | .tuple _ _, _, h => by rcases h with ⟨_, _, rfl⟩ | ⟨_, rfl⟩ <;> exact (Ty.allocOf_tuple _ _ _).symm
  | .option t, _, h => by
      rw [Ty.allocOf_option]
      rcases h with rfl | ⟨x, rfl, hx⟩
      · rfl
      · exact Ty.Conforms.alloc t x hx
  | .bound t, _, h => by
      rw [Ty.allocOf_bound, Ty.allocOf_option]
      rcases h with rfl | ⟨x, rfl, hx⟩ | ⟨x, rfl, hx⟩
      · rfl
      · exact Ty.Conforms.alloc t x hx
      · exact Ty.Conforms.alloc t x hx
  | .controlFlow b c, _, h => by
      rw [Ty.allocOf_controlFlow]
      rcases h with ⟨x, rfl, hx⟩ | ⟨x, rfl, hx⟩
      · exact Ty.Conforms.alloc b x hx
      · exact Ty.Conforms.alloc c x hx
  | .range k t, _, h => by
      rw [Ty.allocOf_range]
      rcases h with ⟨a, b, rfl, ha, hb⟩ | ⟨a, rfl, ha⟩
      · show epsAllocs a + epsAllocsList [b] = t.allocOf a.erase + t.allocOf b.erase
        rw [Ty.Conforms.alloc t a ha, ← Ty.Conforms.alloc t b hb]; rfl
      · exact Ty.Conforms.alloc t a ha
  | .rangeFull, _, h => by cases h; exact (Ty.allocOf_rangeFull _).symm
  | .adt m vs, e, h => by
      rw [Ty.Conforms_adt] at h
      rw [Ty.allocOf_adt]
      by_cases hz : m.zero = true
      · rw [if_pos hz] at h ⊢
        rcases h with ⟨_, _, rfl⟩ | ⟨_, rfl⟩ <;> rfl
      rw [if_neg hz] at h ⊢
      by_cases he : m.isEnum = true
      · rw [if_pos he] at h ⊢
        obtain ⟨i, es, rfl, hes⟩ := h
        exact Variants.Conforms.alloc vs i es hes
      · rw [if_neg he] at h ⊢
        obtain ⟨es, rfl, hes⟩ := h
        match vs, hes with
        | .cons _ fds .nil, hes => exact Fields.Conforms.alloc fds es hes
  | .sliceRef _, _, h | .serIter _, _, h => nomatch h
theorem Fields.Conforms.alloc : ∀ (f : Fields) (es : List EVal), f.Conforms es →
    epsAllocsList es = f.allocOf (EVal.eraseList es)
  | .nil, _, h => by cases h; unfold Fields.allocOf; rfl
  | .cons _ true t r, _, h => by
      obtain ⟨e, rest, rfl, he, hr⟩ := h
      show epsAllocs e + epsAllocsList rest = (Fields.cons _ true t r).allocOf (e.erase :: EVal.eraseList rest)
      rw [Fields.allocOf_cons, Ty.Conforms.alloc t e he, Fields.Conforms.alloc r rest hr]; rfl
  | .cons _ false t r, _, h => by
      obtain ⟨_, rest, rfl, ⟨v, rfl⟩, hr⟩ := h
      show heapAllocs v + epsAllocsList rest = (Fields.cons _ false t r).allocOf (v :: EVal.eraseList rest)
      rw [Fields.allocOf_cons, Fields.Conforms.alloc r rest hr]; rfl
theorem Variants.Conforms.alloc : ∀ (vs : Variants) (i : Nat) (es : List EVal), vs.Conforms i es →
    epsAllocsList es = vs.allocOf i (EVal.eraseList es)
  | .nil, _, _, h => nomatch h
  | .cons _ fs _, 0, es, h => by unfold Variants.allocOf; exact Fields.Conforms.alloc fs es h
  | .cons _ _ r, i+1, es, h => by unfold Variants.allocOf; exact Variants.Conforms.alloc r i es h
end

/-- **The allocations of the ε-copy reader are determined by the type and the deep-copy skeleton**, on arbitrary
    bytes, at any base address and position. -/
theorem Ty.eps_alloc (base : Nat) : ∀ (t : Ty) (d : B) (pos : Nat) (e : EVal) (d' : B) (p' : Nat),
    t.decEps base d pos = .ok (e, d', p') → epsAllocs e = t.allocOf e.erase :=
  fun t d pos e d' p' h => Ty.Conforms.alloc t e (Ty.decEps_conforms base t d pos e d' p' h)
theorem Fields.eps_alloc (base : Nat) : ∀ (f : Fields) (d : B) (pos : Nat) (es : List EVal) (d' : B) (p' : Nat),
    f.decEps base d pos = .ok (es, d', p') → epsAllocsList es = f.allocOf (EVal.eraseList es) :=
  fun f d pos es d' p' h => Fields.Conforms.alloc f es (Fields.decEps_conforms base f d pos es d' p' h)
theorem Variants.eps_alloc (base : Nat) : ∀ (vs : Variants) (orig i : Nat) (d : B) (pos : Nat) (e : EVal) (d' : B) (p' : Nat),
    vs.decEps base orig i d pos = .ok (e, d', p') →
    ∃ vals, e = .variant orig vals ∧ epsAllocsList vals = vs.allocOf i (EVal.eraseList vals) :=
  fun vs orig i d pos e d' p' h =>
    let ⟨vals, he, hc⟩ := Variants.decEps_conforms base vs orig i d pos e d' p' h
    ⟨vals, he, Variants.Conforms.alloc vs i vals hc⟩

/-! ### The allocations depend on the deep-copy skeleton only

`Ty.skel` has the clauses of `Ty.allocOf`, and keeps of a value what that clause looks at: nothing (`.unit`) where
`Ty.allocOf` is 0. -/

theorem Ty.skel_string (v : Val) : Ty.string.skel v = .unit := by unfold Ty.skel; rfl

theorem Ty.skel_vec (t : Ty) (v : Val) :
    (Ty.vec t).skel v = if t.isZC then .unit else match v with
      | .seq vs => .seq (Ty.skelList t vs)
      | _ => .unit := by
  rw [Ty.skel.eq_def]; rfl
theorem Ty.skel_boxSlice (t : Ty) (v : Val) : (Ty.boxSlice t).skel v = (Ty.vec t).skel v := by unfold Ty.skel; rfl
theorem Ty.skel_array (t : Ty) (n : Nat) (v : Val) : (Ty.array t n).skel v = (Ty.vec t).skel v := by unfold Ty.skel; rfl

theorem Ty.skel_option (t : Ty) (v : Val) :
    (Ty.option t).skel v = match v with
      | .variant i [x] => .variant i [t.skel x]
      | _ => .unit := by
  rw [Ty.skel.eq_def]; rfl
theorem Ty.skel_bound (t : Ty) (v : Val) : (Ty.bound t).skel v = (Ty.option t).skel v := by unfold Ty.skel; rfl

theorem Ty.skel_controlFlow (b c : Ty) (v : Val) :
    (Ty.controlFlow b c).skel v = match v with
      | .variant 0 [x] => .variant 0 [b.skel x]
      | .variant (i+1) [x] => .variant (i+1) [c.skel x]
      | _ => .unit := by
  rw [Ty.skel.eq_def]; rfl

theorem Ty.skel_range (k : RangeK) (t : Ty) (v : Val) :
    (Ty.range k t).skel v = match v with
      | .record [a, b] => .record [t.skel a, t.skel b]
      | .record [a] => .record [t.skel a]
      | _ => .unit := by
  rw [Ty.skel.eq_def]; rfl

theorem Ty.skel_adt (m : AdtMeta) (vs : Variants) (v : Val) :
    (Ty.adt m vs).skel v =
      if m.zero then .unit
      else if m.isEnum then match v with
        | .variant i fs => .variant i (Variants.skel vs i fs)
        | _ => .unit
      else match vs, v with
        | .cons _ fds .nil, .record fs => .record (Fields.skel fds fs)
        | _, _ => .unit := by
  rw [Ty.skel.eq_def]; rfl

theorem Ty.skelList_cons (t : Ty) (v : Val) (vs : List Val) : Ty.skelList t (v :: vs) = t.skel v :: Ty.skelList t vs := by
  rw [Ty.skelList.eq_def]

theorem Fields.skel_cons (n : B) (viaEps : Bool) (t : Ty) (r : Fields) (v : Val) (vs : List Val) :
    (Fields.cons n viaEps t r).skel (v :: vs) = (if viaEps then t.skel v else v) :: r.skel vs := by
  rw [Fields.skel.eq_def]

theorem Ty.skelList_isEmpty (t : Ty) (vs : List Val) : (Ty.skelList t vs).isEmpty = vs.isEmpty := by
  cases vs <;> unfold Ty.skelList <;> rfl

theorem Ty.allocOfList_skel_of {t : Ty} (h : ∀ v, t.allocOf (t.skel v) = t.allocOf v) :
    ∀ vs, Ty.allocOfList t (Ty.skelList t vs) = Ty.allocOfList t vs
  | [] => by unfold Ty.skelList; rfl
  | v :: vs => by rw [Ty.skelList_cons, Ty.allocOfList_cons, Ty.allocOfList_cons, h v, Ty.allocOfList_skel_of h vs]

/-- `Vec<T>`, and with it `Box<[T]>` and `[T; N]`. -/
theorem Ty.allocOf_skel_vec {t : Ty} (ih : ∀ v, t.allocOf (t.skel v) = t.allocOf v) (v : Val) :
    (Ty.vec t).allocOf ((Ty.vec t).skel v) = (Ty.vec t).allocOf v := by
  rw [Ty.skel_vec, Ty.allocOf_vec, Ty.allocOf_vec]
  by_cases hz : t.isZC = true
  · rw [if_pos hz, if_pos hz]
  · rw [if_neg hz, if_neg hz, if_neg hz]
    rcases v with _ | _ | _ | vs | _ | _ <;> try rfl
    show (if (Ty.skelList t vs).isEmpty then 0 else 1) + Ty.allocOfList t (Ty.skelList t vs) = _
    rw [Ty.skelList_isEmpty, Ty.allocOfList_skel_of ih]

/-- `Option<T>`, and with it `Bound<T>`. -/
theorem Ty.allocOf_skel_option {t : Ty} (ih : ∀ v, t.allocOf (t.skel v) = t.allocOf v) (v : Val) :
    (Ty.option t).allocOf ((Ty.option t).skel v) = (Ty.option t).allocOf v := by
  rw [Ty.skel_option, Ty.allocOf_option, Ty.allocOf_option]
  rcases v with _ | _ | _ | _ | ⟨i, _ | ⟨x, _ | _⟩⟩ | _ <;> try rfl
  exact ih x

mutual
theorem Ty.allocOf_skel : ∀ (t : Ty) (v : Val), t.allocOf (t.skel v) = t.allocOf v
  | .prim _, _ | .phantom _, _ | .string, _ | .boxStr, _ | .tuple _ _, _ | .rangeFull, _ | .sliceRef _, _ | .serIter _, _ => by
      unfold Ty.allocOf; rfl
  | .vec t, v => Ty.allocOf_skel_vec (Ty.allocOf_skel t) v
  | .boxSlice t, v => by
      rw [Ty.skel_boxSlice, Ty.allocOf_boxSlice, Ty.allocOf_boxSlice]; exact Ty.allocOf_skel_vec (Ty.allocOf_skel t) v
  | .array t n, v => by
      rw [Ty.skel_array, Ty.allocOf_array, Ty.allocOf_array]; exact Ty.allocOf_skel_vec (Ty.allocOf_skel t) v
  | .option t, v => Ty.allocOf_skel_option (Ty.allocOf_skel t) v
  | .bound t, v => by
      rw [Ty.skel_bound, Ty.allocOf_bound, Ty.allocOf_bound]; exact Ty.allocOf_skel_option (Ty.allocOf_skel t) v
  | .controlFlow b c, v => by
      rw [Ty.skel_controlFlow, Ty.allocOf_controlFlow, Ty.allocOf_controlFlow]
      rcases v with _ | _ | _ | _ | ⟨_ | i, _ | ⟨x, _ | _⟩⟩ | _ <;> try rfl
      · exact Ty.allocOf_skel b x
      · exact Ty.allocOf_skel c x
  | .range k t, v => by
      rw [Ty.skel_range, Ty.allocOf_range, Ty.allocOf_range]
      rcases v with _ | _ | _ | _ | _ | ⟨_ | ⟨a, _ | ⟨b, _ | _⟩⟩⟩ <;> try rfl
      · exact Ty.allocOf_skel t a
      · show t.allocOf (t.skel a) + t.allocOf (t.skel b) = t.allocOf a + t.allocOf b
        rw [Ty.allocOf_skel t a, Ty.allocOf_skel t b]
  | .adt m vs, v => by
      rw [Ty.skel_adt, Ty.allocOf_adt, Ty.allocOf_adt]
      by_cases hz : m.zero = true
      · rw [if_pos hz, if_pos hz]
      rw [if_neg hz, if_neg hz, if_neg hz]
      by_cases he : m.isEnum = true
      · rw [if_pos he, if_pos he, if_pos he]
        cases v <;> try rfl
        exact Variants.allocOf_skel vs _ _
      · rw [if_neg he, if_neg he, if_neg he]
        match vs, v with
        | .cons _ fds .nil, .record fs => exact Fields.allocOf_skel fds fs
        | .cons _ _ .nil, .bits _ | .cons _ _ .nil, .unit | .cons _ _ .nil, .str _ | .cons _ _ .nil, .seq _
        | .cons _ _ .nil, .variant _ _ | .nil, _ | .cons _ _ (.cons _ _ _), _ => rfl
theorem Fields.allocOf_skel : ∀ (f : Fields) (vs : List Val), f.allocOf (f.skel vs) = f.allocOf vs
  | .nil, vs => by unfold Fields.allocOf; rfl
  | .cons _ viaEps t r, [] => by unfold Fields.skel; rfl
  | .cons _ viaEps t r, v :: vs => by
      rw [Fields.skel_cons, Fields.allocOf_cons, Fields.allocOf_cons, Fields.allocOf_skel r vs]
      cases viaEps
      · rfl
      · exact congrArg (· + _) (Ty.allocOf_skel t v)
theorem Variants.allocOf_skel : ∀ (vs : Variants) (i : Nat) (vals : List Val), vs.allocOf i (vs.skel i vals) = vs.allocOf i vals
  | .nil, _, _ => by unfold Variants.allocOf; rfl
  | .cons _ fs _, 0, vals => by unfold Variants.skel Variants.allocOf; exact Fields.allocOf_skel fs vals
  | .cons _ _ r, i+1, vals => by unfold Variants.skel Variants.allocOf; exact Variants.allocOf_skel r i vals
end

theorem Ty.allocOfList_skel : ∀ (t : Ty) (vs : List Val), Ty.allocOfList t (Ty.skelList t vs) = Ty.allocOfList t vs :=
  fun t => Ty.allocOfList_skel_of (Ty.allocOf_skel t)

/-- Values with the same deep-copy skeleton cost the ε-copy reader the same allocations. -/
theorem Ty.allocOf_of_skel_eq (t : Ty) (v w : Val) (h : t.skel v = t.skel w) : t.allocOf v = t.allocOf w := by
  rw [← Ty.allocOf_skel t v, ← Ty.allocOf_skel t w, h]

end Eps
