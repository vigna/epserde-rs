/-
  Tiling and alignment of the schema forest (`ForestOK`, `TreesOK`), and that the forest recorded
  for a value has them (`trees_ok`).
-/
import EpsModel.Schema
import EpsModel.Lemmas.BlocksL
import EpsModel.Lemmas.Clauses
namespace Eps

/-- siblings are contiguous from `p`; returns where they end -/
def contig : List Tree → Nat → Option Nat
  | [], p => some p
  | t :: ts, p => if t.off = p then contig ts (p + t.size) else none

mutual
/-- a node's children, if any, tile it exactly; recursively -/
def Tree.tiled : Tree → Bool
  | .node o s _ _ kids => (kids.isEmpty || contig kids o == some (o + s)) && Tree.tiledList kids
def Tree.tiledList : List Tree → Bool
  | [] => true
  | t :: ts => t.tiled && Tree.tiledList ts
end

mutual
/-- every recorded alignment divides the offset of its row (0 = not applicable) -/
def Tree.alignedAll : Tree → Bool
  | .node o _ a _ kids => (a == 0 || o % a == 0) && Tree.alignedList kids
def Tree.alignedList : List Tree → Bool
  | [] => true
  | t :: ts => t.alignedAll && Tree.alignedList ts
end

/-- a forest starting at `p` covers exactly `len` bytes, every node is tiled by its children, every
    recorded alignment divides its offset -/
structure ForestOK (f : List Tree) (p len : Nat) : Prop where
  cover : contig f p = some (p + len)
  tiled : Tree.tiledList f = true
  aligned : Tree.alignedList f = true

/-- same, but a value that writes its bytes directly records nothing (a leaf) -/
structure TreesOK (f : List Tree) (p len : Nat) : Prop where
  cover : f = [] ∨ contig f p = some (p + len)
  tiled : Tree.tiledList f = true
  aligned : Tree.alignedList f = true

theorem ForestOK.toTrees {f : List Tree} {p len : Nat} (h : ForestOK f p len) : TreesOK f p len :=
  ⟨Or.inr h.cover, h.tiled, h.aligned⟩

theorem TreesOK.nil (p len : Nat) : TreesOK [] p len := ⟨Or.inl rfl, rfl, rfl⟩
theorem ForestOK.nil (p : Nat) : ForestOK [] p 0 := ⟨rfl, rfl, rfl⟩

theorem leaf_ok {o a : Nat} (s : Nat) (p : Bool) (h : o % a = 0) :
    Tree.tiled (.node o s a p []) = true ∧ Tree.alignedAll (.node o s a p []) = true := by
  refine ⟨rfl, ?_⟩
  unfold Tree.alignedAll
  rw [h]; exact (Bool.and_true _).trans (Bool.or_true _)

theorem node_ok {kids : List Tree} {o s : Nat} (h : TreesOK kids o s) :
    Tree.tiled (.node o s 0 false kids) = true ∧ Tree.alignedAll (.node o s 0 false kids) = true := by
  unfold Tree.tiled Tree.alignedAll
  rw [h.tiled, h.aligned]
  rcases h.cover with rfl | h1
  · exact ⟨rfl, rfl⟩
  · rw [h1]; exact ⟨by simp, rfl⟩

/-- a `write` node over what the value records -/
theorem treeW_ok (t : Ty) (v : Val) (pos : Nat) (h : TreesOK (t.trees v pos) pos (t.enc v pos).length) :
    Tree.tiled (t.treeW v pos) = true ∧ Tree.alignedAll (t.treeW v pos) = true := by
  unfold Ty.treeW; exact node_ok h

theorem treeW_off_size (t : Ty) (v : Val) (pos : Nat) :
    (t.treeW v pos).off = pos ∧ (t.treeW v pos).size = (t.enc v pos).length := by
  unfold Ty.treeW; exact ⟨rfl, rfl⟩

theorem cons_ok (n : Tree) (rest : List Tree) (p len : Nat) (hoff : n.off = p)
    (hn : n.tiled = true ∧ n.alignedAll = true)
    (hr : ForestOK rest (p + n.size) len) : ForestOK (n :: rest) p (n.size + len) := by
  subst hoff
  refine ⟨?_, ?_, ?_⟩
  · unfold contig; rw [if_pos rfl, hr.cover, Nat.add_assoc]
  · unfold Tree.tiledList; rw [hn.1, hr.tiled]; rfl
  · unfold Tree.alignedList; rw [hn.2, hr.aligned]; rfl

/-- `align` + `write_bytes` of `b`: a padding row of unit 1 unless the padding is empty, then the row of `b` -/
theorem zeroTrees_ok (pos : Nat) (b : B) {u : Nat} (hu : IsP2 u) :
    ForestOK (zeroTrees pos b.length u) pos (zeros (pad pos u) ++ b).length := by
  have hb : ForestOK [.node (pos + pad pos u) b.length u false []] (pos + pad pos u) b.length :=
    cons_ok _ [] _ 0 rfl (leaf_ok _ _ (pad_aligned hu)) (.nil _)
  rw [List.length_append, zeros_length]
  unfold zeroTrees padTrees
  split
  · exact cons_ok (.node pos (pad pos u) 1 true []) _ pos _ rfl (leaf_ok _ _ (Nat.mod_one _)) hb
  · rename_i h
    have h0 : pad pos u = 0 := by simpa using h
    rw [h0] at hb ⊢
    rw [Nat.zero_add]; exact hb

/-- a row over children that, if any, tile it; then a forest over what follows -/
theorem ForestOK.node {kids rest : List Tree} {p s len : Nat} (hk : TreesOK kids p s)
    (hr : ForestOK rest (p + s) len) : ForestOK (.node p s 0 false kids :: rest) p (s + len) :=
  cons_ok _ rest p len rfl (node_ok hk) hr

/-- a leaf `write` of the bytes `w` (a tag or a length), then a forest over what follows -/
theorem ForestOK.leaf (w : B) {k : Nat} (hk : w.length = k) {rest : List Tree} {p : Nat} {e : B}
    (hr : ForestOK rest (p + k) e.length) : ForestOK (.node p k 0 false [] :: rest) p (w ++ e).length := by
  rw [List.length_append, hk]; exact .node (.nil _ _) hr

/-- a leaf `write` at the end -/
theorem ForestOK.leaf_last (p k : Nat) : ForestOK [.node p k 0 false []] p k :=
  .node (.nil _ _) (.nil _)

theorem ForestOK.congr {f : List Tree} {p p' len len' : Nat} (h : ForestOK f p len) (hp : p = p') (hl : len = len') :
    ForestOK f p' len' :=
  hp ▸ hl ▸ h

/-- a written value, then a forest over what follows -/
theorem ForestOK.write {t : Ty} {v : Val} {pos : Nat} {rest : List Tree} {e : B}
    (hv : Tree.tiled (t.treeW v pos) = true ∧ Tree.alignedAll (t.treeW v pos) = true)
    (hr : ForestOK rest (pos + (t.enc v pos).length) e.length) :
    ForestOK (t.treeW v pos :: rest) pos (t.enc v pos ++ e).length := by
  obtain ⟨ho, hs⟩ := treeW_off_size t v pos
  rw [List.length_append]; rw [← hs] at hr ⊢; exact cons_ok _ rest pos _ ho hv hr

/-- a written value at the end -/
theorem ForestOK.write_last {t : Ty} {v : Val} {pos : Nat}
    (hv : Tree.tiled (t.treeW v pos) = true ∧ Tree.alignedAll (t.treeW v pos) = true) :
    ForestOK [t.treeW v pos] pos (t.enc v pos).length := by
  simpa only [List.append_nil] using ForestOK.write (e := []) hv (.nil _)

theorem contig_ge : ∀ (ts : List Tree) (p q : Nat), contig ts p = some q → p ≤ q
  | [], p, q, h => Nat.le_of_eq (Option.some.inj h)
  | t :: ts, p, q, h => by
      unfold contig at h
      split at h
      · exact Nat.le_trans (Nat.le_add_right p t.size) (contig_ge ts (p + t.size) q h)
      · cases h

/-- The derived-type clauses of `Ty.trees` in one piece (as `Ty.enc_adt`, `Ty.blocks_adt`). -/
theorem Ty.trees_adt (m : AdtMeta) (vs : Variants) (v : Val) (pos : Nat) :
    (Ty.adt m vs).trees v pos = match v with
      | .record fs =>
          if m.zero then zeroTrees pos (Ty.toMem (.adt m vs) v).length (Ty.maxSizeOf (.adt m vs))
          else (match vs with | .cons _ fds .nil => Fields.trees fds fs pos | _ => [])
      | .variant i fs =>
          if m.zero then zeroTrees pos (Ty.toMem (.adt m vs) v).length (Ty.maxSizeOf (.adt m vs))
          else .node pos 8 0 false [] :: Variants.trees vs i fs (pos + 8)
      | _ => [] := by
  cases v <;> (unfold Ty.trees; rfl)

/-! ### The schema forest of every value of a well-formed type tiles the bytes written, node by node.
    Values that do not inhabit the type record nothing or a prefix, so no typing hypothesis is needed. -/

theorem trees_ok_all :
    (∀ t v pos, t.wf = true → TreesOK (Ty.trees t v pos) pos (Ty.enc t v pos).length) ∧
    (∀ vs i vals pos, vs.wf = true → ForestOK (Variants.trees vs i vals pos) pos (Variants.enc vs i vals pos).length) ∧
    (∀ f vs pos, f.wf = true → ForestOK (Fields.trees f vs pos) pos (Fields.enc f vs pos).length) ∧
    (∀ t v pos, t.wf = true → Tree.tiled (Ty.treeW t v pos) = true ∧ Tree.alignedAll (Ty.treeW t v pos) = true) ∧
    (∀ t vs pos, t.wf = true → ForestOK (Ty.treesList t vs pos) pos (Ty.encList t vs pos).length) ∧
    (∀ t vs pos, t.wf = true → ForestOK (Ty.treesSeq t vs pos) pos (Ty.encSeq t vs pos).length) := by
  apply Ty.trees.mutual_induct_unfolding
    (motive1 := fun t v pos ts => t.wf = true → TreesOK ts pos (Ty.enc t v pos).length)
    (motive2 := fun vs i vals pos _ => vs.wf = true → ForestOK (Variants.trees vs i vals pos) pos (Variants.enc vs i vals pos).length)
    (motive3 := fun f vs pos _ => f.wf = true → ForestOK (Fields.trees f vs pos) pos (Fields.enc f vs pos).length)
    (motive4 := fun t v pos _ => t.wf = true → Tree.tiled (Ty.treeW t v pos) = true ∧ Tree.alignedAll (Ty.treeW t v pos) = true)
    (motive5 := fun t vs pos _ => t.wf = true → ForestOK (Ty.treesList t vs pos) pos (Ty.encList t vs pos).length)
    (motive6 := fun t vs pos _ => t.wf = true → ForestOK (Ty.treesSeq t vs pos) pos (Ty.encSeq t vs pos).length)
  -- string, boxStr: the length word, then the bytes with unit 1
  iterate 2
    intro b pos _; rw [Ty.enc]
    have h := zeroTrees_ok (pos + 8) b IsP2.one
    rw [pad_one] at h
    exact (ForestOK.leaf _ (leBytes_length 8 _) h).toTrees
  -- vec, boxSlice
  · intro t vs pos ih hw; simpa only [Ty.enc] using (ih (Ty.wf_vec hw)).toTrees
  · intro t vs pos ih hw; simpa only [Ty.enc] using (ih (Ty.wf_boxSlice hw)).toTrees
  -- sliceRef
  · intro t vs pos _ hw; cases hw
  -- array, tuple
  · intro t n vs pos hz hw; rw [Ty.enc, if_pos hz]
    exact (zeroTrees_ok pos _ (Ty.unit_p2 hz (Ty.wf_array hw))).toTrees
  · intro t n vs pos hz ih hw; simpa only [Ty.enc, if_neg hz] using (ih (Ty.wf_array hw)).toTrees
  · intro t n vs pos hw; rw [Ty.enc]
    exact (zeroTrees_ok pos _ (Ty.unit_p2 (Ty.wf_tuple hw).2 (Ty.wf_tuple hw).1)).toTrees
  -- option, bound, controlFlow: a tag byte alone, or a tag byte and the payload (clause equations as in `blocks_in_all`)
  · intro t pos _; rw [Ty.enc_option]; exact (ForestOK.leaf_last pos 1).toTrees
  · intro t v pos ih hw; rw [Ty.enc_option]; exact (ForestOK.leaf [1] rfl (.write_last (ih hw))).toTrees
  · intro t pos _; rw [Ty.enc_bound]; exact (ForestOK.leaf_last pos 1).toTrees
  · intro t v pos ih hw; rw [Ty.enc_bound]; exact (ForestOK.leaf [1] rfl (.write_last (ih hw))).toTrees
  · intro t v pos ih hw; rw [Ty.enc_bound]; exact (ForestOK.leaf [2] rfl (.write_last (ih hw))).toTrees
  · intro b c v pos ih hw; rw [Ty.enc_controlFlow]
    exact (ForestOK.leaf [0] rfl (.write_last (ih (Ty.wf_controlFlow hw).1))).toTrees
  · intro b c v pos ih hw; rw [Ty.enc_controlFlow]
    exact (ForestOK.leaf [1] rfl (.write_last (ih (Ty.wf_controlFlow hw).2))).toTrees
  -- ranges
  · intro t a b pos iha ihb hw; have hw := (Ty.wf_range hw).1; rw [Ty.enc_range]
    exact (ForestOK.write (iha hw) (.write_last (ihb hw))).toTrees
  · intro t a b pos p2 p3 iha ihb hw; have hw := (Ty.wf_range hw).1; rw [Ty.enc_range]; dsimp only; rw [List.append_assoc]
    exact (ForestOK.write (iha hw) (.write (ihb hw) (.leaf_last _ 1))).toTrees
  iterate 3 (intro t a pos ih hw; rw [Ty.enc_range]; exact (ForestOK.write_last (ih (Ty.wf_range hw).1)).toTrees)
  -- derived types; every other shape
  · intro m vs fs pos hz hw; rw [Ty.enc_adt_zero _ _ _ _ hz]
    exact (zeroTrees_ok pos _ (Ty.unit_p2 (Ty.isZC_adt hw hz) hw)).toTrees
  · intro m fs pos hz name fds ih hw; simpa only [Ty.enc_adt, if_neg hz] using (ih (Ty.wf_struct hw)).toTrees
  · intros; exact .nil _ _
  · intro m vs i fs pos hz hw; rw [Ty.enc_adt_zero_variant _ _ _ _ _ hz]
    exact (zeroTrees_ok pos _ (Ty.unit_p2 (Ty.isZC_adt hw hz) hw)).toTrees
  · intro m vs i fs pos hz ih hw; rw [Ty.enc_adt_enum _ _ _ _ _ (eq_false_of_ne_true hz)]
    exact (ForestOK.leaf _ (leBytes_length 8 i) (ih (Ty.wf_adt hw))).toTrees
  · intros; exact .nil _ _
  -- variants
  · intros; rw [Variants.trees, Variants.enc]; exact .nil _
  · intro name fs rest vals pos ih hw; simpa only [Variants.trees, Variants.enc] using ih (Variants.wf_cons hw).1
  · intro name fs r i vals pos ih hw; simpa only [Variants.trees, Variants.enc] using ih (Variants.wf_cons hw).2
  -- fields
  · intro name e t r v vs pos ihv ihr hw; rw [Fields.trees, Fields.enc]
    exact .write (ihv (Fields.wf_cons hw).1) (ihr (Fields.wf_cons hw).2)
  · intro f vs pos h _; rw [Fields.trees.eq_2 _ _ _ h, Fields.enc.eq_2 _ _ _ h]; exact .nil _
  -- a written value
  · intro t v pos ih hw; exact treeW_ok t v pos (ih hw)
  -- items one after the other
  · intros; rw [Ty.treesList, Ty.encList]; exact .nil _
  · intro t v vs pos ihv ihr hw; rw [Ty.treesList, Ty.encList]; exact .write (ihv hw) (ihr hw)
  -- a length word, then one block or the items
  · intro t vs pos hz hw; rw [Ty.treesSeq, Ty.encSeq, if_pos hz, if_pos hz, List.append_assoc]
    exact .leaf _ (leBytes_length 8 _) (zeroTrees_ok _ _ (Ty.unit_p2 hz hw))
  · intro t vs pos hz ih hw; rw [Ty.treesSeq, Ty.encSeq, if_neg hz, if_neg hz]
    exact .leaf _ (leBytes_length 8 _) (ih hw)

theorem Ty.trees_ok : ∀ (t : Ty), t.wf = true → ∀ v, t.wt v = true → ∀ pos, TreesOK (t.trees v pos) pos (t.enc v pos).length :=
  fun t hw v _ pos => trees_ok_all.1 t v pos hw
theorem Fields.trees_ok : ∀ (f : Fields), f.wf = true → ∀ vs, f.wt vs = true → ∀ pos,
    ForestOK (f.trees vs pos) pos (f.enc vs pos).length :=
  fun f hw vs _ pos => trees_ok_all.2.2.1 f vs pos hw
theorem Variants.trees_ok : ∀ (vs : Variants), vs.wf = true → ∀ i vals, vs.wt i vals = true → ∀ pos,
    ForestOK (vs.trees i vals pos) pos (vs.enc i vals pos).length :=
  fun vs hw i vals _ pos => trees_ok_all.2.1 vs i vals pos hw

end Eps
