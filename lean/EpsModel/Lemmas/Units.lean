/-
  Alignment units: for every zero-copy type of the well-formed universe, `align_of` and
  `max_size_of` are powers of two, the unit is at least the native alignment and at least the unit
  of every field.
-/
import EpsModel.Lemmas.WfL
namespace Eps

/-- a power of two not exceeding 2^63 -/
def IsP2 (n : Nat) : Prop := ∃ k, k ≤ 63 ∧ n = 2 ^ k

theorem IsP2.pos {n : Nat} (h : IsP2 n) : 0 < n := by
  obtain ⟨k, _, rfl⟩ := h; exact Nat.two_pow_pos k

theorem IsP2.one : IsP2 1 := ⟨0, Nat.zero_le _, rfl⟩

theorem IsP2.max {a b : Nat} (ha : IsP2 a) (hb : IsP2 b) : IsP2 (max a b) := by
  rcases Nat.le_total a b with h | h
  · rw [Nat.max_eq_right h]; exact hb
  · rw [Nat.max_eq_left h]; exact ha

theorem IsP2.max0 {a b : Nat} (ha : IsP2 a) (hb : b = 0 ∨ IsP2 b) : IsP2 (Nat.max a b) := by
  rcases hb with rfl | hb
  · simpa using ha
  · exact IsP2.max ha hb

/-- a table of 29 entries, looked up by `pow2b` -/
theorem Prim.align_p2 (p : Prim) : IsP2 p.align :=
  pow2b_spec <| by
    cases p with
    | int k | nz k => cases k <;> decide
    | _ => decide

mutual
theorem Ty.units (t : Ty) : t.isZC = true → t.wf = true → IsP2 t.alignOf ∧ IsP2 t.maxSizeOf ∧ t.alignOf ≤ t.maxSizeOf :=
  match t with
  -- the unit of a primitive is `max size 1`, which is how `Prim.align` is defined
  | .prim p => fun _ _ => ⟨Prim.align_p2 p, Prim.align_p2 p, Nat.le_refl _⟩
  | .phantom _ | .rangeFull => fun _ _ => ⟨IsP2.one, IsP2.one, Nat.le_refl _⟩
  | .array t n => fun hz hw => Ty.units t hz (Ty.wf_array hw)
  | .tuple t n => fun _ hw => Ty.units t (Ty.wf_tuple hw).2 (Ty.wf_tuple hw).1
  | .range k t => fun hz hw => by
      have ih := Ty.units t (Ty.wf_range hw).2 (Ty.wf_range hw).1
      have hs := Ty.wf_range_size hw
      cases k with
      | to | toIncl => exact ⟨ih.1, pow2b_spec hs.1, hs.2⟩
      | _ => cases hz
  | .adt m vs => fun hz hw => by
      simp only [Ty.isZC, Bool.and_eq_true] at hz
      have hv := Variants.units vs hz.2 (Ty.wf_adt hw)
      have hm := pow2b_spec (Ty.wf_adt_align hw)
      have ha : IsP2 (Ty.alignOf (.adt m vs)) := by
        simp only [Ty.alignOf]
        split
        · exact IsP2.max (IsP2.max hm ⟨2, by decide, rfl⟩) hv.1
        · exact IsP2.max hm hv.1
      exact ⟨ha, IsP2.max0 ha hv.2, Nat.le_max_left _ _⟩
  | .string | .boxStr | .vec _ | .boxSlice _ | .option _ | .bound _ | .controlFlow _ _
  | .sliceRef _ | .serIter _ => fun h _ => by cases h
theorem Fields.units (f : Fields) : f.allZC = true → f.wf = true → IsP2 f.maxAlign ∧ (f.maxUnit = 0 ∨ IsP2 f.maxUnit) :=
  match f with
  | .nil => fun _ _ => ⟨IsP2.one, Or.inl rfl⟩
  | .cons _ _ t r => fun hz hw => by
      simp only [Fields.allZC, Bool.and_eq_true] at hz
      have h1 := Ty.units t hz.1 (Fields.wf_cons hw).1
      have h2 := Fields.units r hz.2 (Fields.wf_cons hw).2
      exact ⟨IsP2.max h1.1 h2.1, Or.inr (IsP2.max0 h1.2.1 h2.2)⟩
theorem Variants.units (v : Variants) : v.allZC = true → v.wf = true → IsP2 v.maxAlign ∧ (v.maxUnit = 0 ∨ IsP2 v.maxUnit) :=
  match v with
  | .nil => fun _ _ => ⟨IsP2.one, Or.inl rfl⟩
  | .cons _ fs r => fun hz hw => by
      simp only [Variants.allZC, Bool.and_eq_true] at hz
      have h1 := Fields.units fs hz.1 (Variants.wf_cons hw).1
      have h2 := Variants.units r hz.2 (Variants.wf_cons hw).2
      refine ⟨IsP2.max h1.1 h2.1, ?_⟩
      rcases h1.2 with h0 | hp
      · simp only [Variants.maxUnit, h0, Nat.zero_max]; exact h2.2
      · exact Or.inr (IsP2.max0 hp h2.2)
end

theorem Fields.unit_le (f : Fields) (n : B) (e : Bool) (t : Ty) (h : Fields.mem n e t f) : t.maxSizeOf ≤ f.maxUnit := by
  induction h with
  | head => exact Nat.le_max_left _ _
  | tail _ _ _ _ _ ih => exact Nat.le_trans ih (Nat.le_max_right _ _)

theorem Ty.unit_p2 {t : Ty} (hz : t.isZC = true) (hw : t.wf = true) : IsP2 t.maxSizeOf := (Ty.units t hz hw).2.1

end Eps
