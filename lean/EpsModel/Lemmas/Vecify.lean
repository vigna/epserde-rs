/-
  `vecify` (slice references / iterator wrappers replaced by vectors, anywhere in a type) changes
  no layout table, no byte written and no alignment-hash feed.

  One induction over the type for the four layout tables together (`Ty.layout_vecify`), one each
  for the memory image, the bytes written and the alignment feed (the type feed is in C16). What a
  table does along a list of values or a repetition count is a congruence lemma proved outside the
  mutual block (`toMemList_congr`, `encList_congr`,
  `alignFeedRep_congr`): a member recursing on a list would make Lean compile the whole block by
  well-founded recursion, which is several times slower to check.
-/
import EpsModel.Iter
import EpsModel.Lemmas.Clauses
import EpsModel.Lemmas.Basic
import EpsModel.Hash
-- nothing of `Units` is used: the equation lemmas of `allZC` and `maxUnit` are generated there (those of `alignOf`
-- and `isZC` in `WfL` below it), and without the import Lean generates them again for this file
import EpsModel.Lemmas.Units
namespace Eps

mutual
theorem Ty.layout_vecify : ∀ t : Ty,
    t.vecify.alignOf = t.alignOf ∧ t.vecify.sizeOf = t.sizeOf ∧ t.vecify.isZC = t.isZC ∧ t.vecify.maxSizeOf = t.maxSizeOf
  | .prim _ | .string | .boxStr | .rangeFull | .phantom _ | .vec _ | .boxSlice _ | .sliceRef _ | .serIter _ | .option _
  | .bound _ | .controlFlow _ _ => ⟨rfl, rfl, rfl, rfl⟩
  | .array t _ | .tuple t _ => by
      simp only [Ty.vecify, Ty.alignOf, Ty.sizeOf, Ty.isZC, Ty.maxSizeOf, Ty.layout_vecify t, and_self]
  | .range k t => by
      cases k <;> simp only [Ty.vecify, Ty.alignOf, Ty.sizeOf, Ty.isZC, Ty.maxSizeOf, Ty.layout_vecify t, and_self]
  | .adt m vs => by
      have h := Variants.layout_vecify vs
      -- the struct clause of `sizeOf` looks at the variant list itself
      match vs with
      | .cons _ fs .nil =>
        simp only [Ty.vecify, Variants.vecify, Ty.alignOf, Ty.sizeOf, Ty.isZC, Ty.maxSizeOf, Variants.maxAlign, Variants.maxSize,
          Variants.allZC, Variants.maxUnit, Fields.layout_vecify fs, and_self]
      | .nil | .cons _ _ (.cons _ _ _) =>
        simp only [Variants.vecify] at h
        simp only [Ty.vecify, Variants.vecify, Ty.alignOf, Ty.sizeOf, Ty.isZC, Ty.maxSizeOf, h, and_self]
theorem Fields.layout_vecify : ∀ f : Fields,
    f.vecify.maxAlign = f.maxAlign ∧ (∀ o, f.vecify.endOffset o = f.endOffset o) ∧ f.vecify.allZC = f.allZC ∧
      f.vecify.maxUnit = f.maxUnit
  | .nil => ⟨rfl, fun _ => rfl, rfl, rfl⟩
  | .cons _ _ t r => by
      simp only [Fields.vecify, Fields.maxAlign, Fields.endOffset, Fields.allZC, Fields.maxUnit, Ty.layout_vecify t,
        Fields.layout_vecify r, implies_true, and_self]
theorem Variants.layout_vecify : ∀ v : Variants,
    v.vecify.maxAlign = v.maxAlign ∧ v.vecify.maxSize = v.maxSize ∧ v.vecify.allZC = v.allZC ∧ v.vecify.maxUnit = v.maxUnit
  | .nil => ⟨rfl, rfl, rfl, rfl⟩
  | .cons _ fs r => by
      simp only [Variants.vecify, Variants.maxAlign, Variants.maxSize, Variants.allZC, Variants.maxUnit,
        Fields.layout_vecify fs, Variants.layout_vecify r, and_self]
end

theorem Ty.alignOf_vecify (t : Ty) : t.vecify.alignOf = t.alignOf := (Ty.layout_vecify t).1
theorem Ty.sizeOf_vecify (t : Ty) : t.vecify.sizeOf = t.sizeOf := (Ty.layout_vecify t).2.1
theorem Ty.isZC_vecify (t : Ty) : t.vecify.isZC = t.isZC := (Ty.layout_vecify t).2.2.1
theorem Ty.maxSizeOf_vecify (t : Ty) : t.vecify.maxSizeOf = t.maxSizeOf := (Ty.layout_vecify t).2.2.2
theorem Fields.endOffset_vecify : ∀ (f : Fields) (o : Nat), f.vecify.endOffset o = f.endOffset o :=
  fun f => (Fields.layout_vecify f).2.1
theorem Fields.allZC_vecify : ∀ f : Fields, f.vecify.allZC = f.allZC := fun f => (Fields.layout_vecify f).2.2.1
theorem Fields.maxUnit_vecify : ∀ f : Fields, f.vecify.maxUnit = f.maxUnit := fun f => (Fields.layout_vecify f).2.2.2
theorem Variants.maxAlign_vecify (v : Variants) : v.vecify.maxAlign = v.maxAlign := (Variants.layout_vecify v).1
theorem Variants.maxSize_vecify : ∀ v : Variants, v.vecify.maxSize = v.maxSize := fun v => (Variants.layout_vecify v).2.1
theorem Variants.allZC_vecify : ∀ v : Variants, v.vecify.allZC = v.allZC := fun v => (Variants.layout_vecify v).2.2.1
theorem Variants.maxUnit_vecify : ∀ v : Variants, v.vecify.maxUnit = v.maxUnit := fun v => (Variants.layout_vecify v).2.2.2

theorem Ty.sizeOf_adt_vecify (m : AdtMeta) (vs : Variants) : (Ty.adt m vs.vecify).sizeOf = (Ty.adt m vs).sizeOf :=
  Ty.sizeOf_vecify (.adt m vs)
theorem Ty.maxSizeOf_adt_vecify (m : AdtMeta) (vs : Variants) : (Ty.adt m vs.vecify).maxSizeOf = (Ty.adt m vs).maxSizeOf :=
  Ty.maxSizeOf_vecify (.adt m vs)


theorem Ty.toMemList_congr {t u : Ty} (h : ∀ v, t.toMem v = u.toMem v) : ∀ vs, Ty.toMemList t vs = Ty.toMemList u vs
  | [] => by simp only [Ty.toMemList]
  | v :: vs => by simp only [Ty.toMemList, h, Ty.toMemList_congr h vs]

mutual
theorem Ty.toMem_vecify : ∀ (t : Ty) (v : Val), t.vecify.toMem v = t.toMem v
  | .prim _, _ | .string, _ | .boxStr, _ | .rangeFull, _ => rfl
  | .phantom _, _ | .vec _, _ | .boxSlice _, _ | .sliceRef _, _ | .serIter _, _ | .option _, _ | .bound _, _
  | .controlFlow _ _, _ => by unfold Ty.vecify Ty.toMem; rfl
  | .array t _, v | .tuple t _, v => by
      simp only [Ty.vecify, Ty.toMem_array, Ty.toMem_tuple, Ty.toMemList_congr (Ty.toMem_vecify t)]
  | .range k t, v => by simp only [Ty.vecify, Ty.toMem_range, Ty.toMem_vecify t]
  | .adt m vs, v => by
      simp only [Ty.vecify, Ty.toMem_adt, Ty.sizeOf_adt_vecify, Variants.maxAlign_vecify, Variants.toMem_vecify vs]
      match vs with
      | .cons _ f .nil => simp only [Variants.vecify, Fields.toMem_vecify f]
      | .nil | .cons _ _ (.cons _ _ _) => simp only [Variants.vecify]
theorem Fields.toMem_vecify : ∀ (f : Fields) (vs : List Val) (o : Nat), f.vecify.toMem vs o = f.toMem vs o
  | .nil, vs, o => rfl
  | .cons _ _ t r, [], o => by simp only [Fields.vecify, Fields.toMem]
  | .cons _ _ t r, v :: vs, o => by
      simp only [Fields.vecify, Fields.toMem, Ty.alignOf_vecify t, Ty.sizeOf_vecify t, Ty.toMem_vecify t v,
        Fields.toMem_vecify r vs]
theorem Variants.toMem_vecify : ∀ (vs : Variants) (i : Nat) (fs : List Val), vs.vecify.toMem i fs = vs.toMem i fs
  | .nil, _, _ => rfl
  | .cons _ f _, 0, fs => by simp only [Variants.vecify, Variants.toMem, Fields.toMem_vecify f fs 0]
  | .cons _ _ r, i+1, fs => by simp only [Variants.vecify, Variants.toMem, Variants.toMem_vecify r i fs]
end

theorem Ty.toMem_adt_vecify (m : AdtMeta) (vs : Variants) (v : Val) : (Ty.adt m vs.vecify).toMem v = (Ty.adt m vs).toMem v :=
  Ty.toMem_vecify (.adt m vs) v

theorem Ty.toMemList_vecify (t : Ty) (vs : List Val) : Ty.toMemList t.vecify vs = Ty.toMemList t vs :=
  Ty.toMemList_congr (Ty.toMem_vecify t) vs

theorem Ty.encList_congr {t u : Ty} (h : ∀ v pos, t.enc v pos = u.enc v pos) :
    ∀ vs pos, Ty.encList t vs pos = Ty.encList u vs pos
  | [], _ => by simp only [Ty.encList]
  | v :: vs, pos => by simp only [Ty.encList, h, Ty.encList_congr h vs]

mutual
/-- **No byte changes**: a value serialized at a type in which slice references / iterator wrappers
    occur anywhere (under vectors, options, arrays, as fields of derived structures and enums, at any
    depth) is written exactly as at the type with vectors in their place. -/
theorem Ty.enc_vecify : ∀ (t : Ty) (v : Val) (pos : Nat), t.vecify.enc v pos = t.enc v pos
  | .prim _, _, _ | .string, _, _ | .boxStr, _, _ | .rangeFull, _, _ => rfl
  | .phantom _, _, _ => by simp only [Ty.vecify, Ty.enc_phantom]
  | .vec t, v, pos | .boxSlice t, v, pos | .sliceRef t, v, pos | .serIter t, v, pos => by
      simp only [Ty.vecify, Ty.enc_boxSlice, Ty.enc_sliceRef, Ty.enc_serIter, Ty.enc_vec, Ty.encSeq, Ty.isZC_vecify,
        Ty.maxSizeOf_vecify, Ty.toMemList_vecify, Ty.encList_congr (Ty.enc_vecify t)]
  | .array t _, v, pos | .tuple t _, v, pos => by
      simp only [Ty.vecify, Ty.enc_array, Ty.enc_tuple, Ty.isZC_vecify, Ty.maxSizeOf_vecify, Ty.toMemList_vecify,
        Ty.encList_congr (Ty.enc_vecify t)]
  | .option t, v, pos => by simp only [Ty.vecify, Ty.enc_option, Ty.enc_vecify t]
  | .bound t, v, pos => by simp only [Ty.vecify, Ty.enc_bound, Ty.enc_vecify t]
  | .controlFlow b c, v, pos => by simp only [Ty.vecify, Ty.enc_controlFlow, Ty.enc_vecify b, Ty.enc_vecify c]
  | .range k t, v, pos => by simp only [Ty.vecify, Ty.enc_range, Ty.enc_vecify t]
  | .adt m vs, v, pos => by
      simp only [Ty.vecify, Ty.enc_adt, Ty.maxSizeOf_adt_vecify, Ty.toMem_adt_vecify, Variants.enc_vecify vs]
      match vs with
      | .cons _ f .nil => simp only [Variants.vecify, Fields.enc_vecify f]
      | .nil | .cons _ _ (.cons _ _ _) => simp only [Variants.vecify]
theorem Fields.enc_vecify : ∀ (f : Fields) (vs : List Val) (pos : Nat), f.vecify.enc vs pos = f.enc vs pos
  | .nil, vs, pos => rfl
  | .cons _ _ t r, [], pos => by simp only [Fields.vecify, Fields.enc]
  | .cons _ _ t r, v :: vs, pos => by
      simp only [Fields.vecify, Fields.enc, Ty.enc_vecify t v pos, Fields.enc_vecify r vs]
theorem Variants.enc_vecify : ∀ (vs : Variants) (i : Nat) (fs : List Val) (pos : Nat), vs.vecify.enc i fs pos = vs.enc i fs pos
  | .nil, _, _, _ => rfl
  | .cons _ f _, 0, fs, pos => by simp only [Variants.vecify, Variants.enc, Fields.enc_vecify f fs pos]
  | .cons _ _ r, i+1, fs, pos => by simp only [Variants.vecify, Variants.enc, Variants.enc_vecify r i fs pos]
end

theorem Ty.encList_vecify : ∀ (t : Ty) (vs : List Val) (pos : Nat), Ty.encList t.vecify vs pos = Ty.encList t vs pos :=
  fun t => Ty.encList_congr (Ty.enc_vecify t)

theorem Ty.encSeq_vecify : ∀ (t : Ty) (vs : List Val) (pos : Nat), Ty.encSeq t.vecify vs pos = Ty.encSeq t vs pos := by
  intro t vs pos
  simp only [Ty.encSeq, Ty.isZC_vecify, Ty.maxSizeOf_vecify, Ty.toMemList_vecify, Ty.encList_vecify]

theorem Ty.alignFeedRep_congr {t u : Ty} (h : ∀ off, t.alignFeed off = u.alignFeed off) :
    ∀ n off, Ty.alignFeedRep t n off = Ty.alignFeedRep u n off
  | 0, _ => by simp only [Ty.alignFeedRep]
  | n+1, off => by simp only [Ty.alignFeedRep, h, Ty.alignFeedRep_congr h n]

mutual
theorem Ty.alignFeed_vecify : ∀ (t : Ty) (off : Nat), t.vecify.alignFeed off = t.alignFeed off
  | .prim _, _ | .string, _ | .boxStr, _ | .rangeFull, _ => rfl
  | .phantom _, _ | .bound _, _ => by simp only [Ty.vecify, Ty.alignFeed]
  | .vec t, _ | .boxSlice t, _ | .sliceRef t, _ | .serIter t, _ | .option t, _ => by
      simp only [Ty.vecify, Ty.alignFeed, Ty.alignFeed_vecify t]
  | .array t _, _ => by simp only [Ty.vecify, Ty.alignFeed, Ty.alignFeed_vecify t, Ty.sizeOf_vecify]
  | .tuple t _, _ => by simp only [Ty.vecify, Ty.alignFeed, Ty.alignFeedRep_congr (Ty.alignFeed_vecify t)]
  | .controlFlow b c, _ => by simp only [Ty.vecify, Ty.alignFeed, Ty.alignFeed_vecify b, Ty.alignFeed_vecify c]
  | .range _ t, _ => by simp only [Ty.vecify, Ty.alignFeed, Ty.alignOf_vecify, Ty.sizeOf_vecify]
  | .adt m vs, off => by
      simp only [Ty.vecify]
      unfold Ty.alignFeed
      simp only [Ty.sizeOf_adt_vecify, Variants.alignFeedZero_vecify vs, Variants.alignFeedDeep_vecify vs]
      match vs with
      | .cons _ f .nil => simp only [Variants.vecify, Fields.alignFeed_vecify f, Fields.alignFeedDeep_vecify f]
      | .nil | .cons _ _ (.cons _ _ _) => simp only [Variants.vecify]
theorem Fields.alignFeed_vecify : ∀ (f : Fields) (off : Nat), f.vecify.alignFeed off = f.alignFeed off
  | .nil, _ => rfl
  | .cons _ _ t r, off => by
      simp only [Fields.vecify, Fields.alignFeed, Ty.alignFeed_vecify t off, Fields.alignFeed_vecify r]
theorem Fields.alignFeedDeep_vecify : ∀ (f : Fields), f.vecify.alignFeedDeep = f.alignFeedDeep
  | .nil => rfl
  | .cons _ _ t r => by
      simp only [Fields.vecify, Fields.alignFeedDeep, Ty.alignFeed_vecify t 0, Fields.alignFeedDeep_vecify r]
theorem Variants.alignFeedZero_vecify : ∀ (v : Variants) (old cur : Nat), v.vecify.alignFeedZero old cur = v.alignFeedZero old cur
  | .nil, _, _ => rfl
  | .cons _ fs r, old, _ => by
      simp only [Variants.vecify, Variants.alignFeedZero, Fields.alignFeed_vecify fs old, Variants.alignFeedZero_vecify r]
theorem Variants.alignFeedDeep_vecify : ∀ (v : Variants) (cur : Nat), v.vecify.alignFeedDeep cur = v.alignFeedDeep cur
  | .nil, _ => rfl
  | .cons _ fs r, _ => by
      simp only [Variants.vecify, Variants.alignFeedDeep, Fields.alignFeed_vecify fs 0, Variants.alignFeedDeep_vecify r]
end

end Eps
