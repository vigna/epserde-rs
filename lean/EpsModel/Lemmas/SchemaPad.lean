/-
  Padding rows of the schema cover zero bytes of the stream: for every value, every `PADDING` node
  of the forest recorded while the value is written lies at or after the position where the value
  starts, and the bytes written in its range are all zero.
-/
-- nothing of `SchemaL` is used: the induction principle of `Ty.trees` comes with congruence equations of its matchers,
-- which are generated there, and two files that each generate them cannot be imported together (C18 imports both)
import EpsModel.Lemmas.SchemaL
namespace Eps

/-- the `s` bytes of `bytes` from index `i` exist and are zero -/
def zeroAt (bytes : B) (i s : Nat) : Prop := ∀ k, k < s → bytes[i + k]? = some 0

mutual
/-- every padding node of the tree covers zero bytes of `bytes`, the stream written from position `base` -/
def Tree.padsZero (bytes : B) (base : Nat) : Tree → Prop
  | .node o s _ p kids => (p = true → base ≤ o ∧ zeroAt bytes (o - base) s) ∧ Tree.padsZeroL bytes base kids
def Tree.padsZeroL (bytes : B) (base : Nat) : List Tree → Prop
  | [] => True
  | t :: ts => Tree.padsZero bytes base t ∧ Tree.padsZeroL bytes base ts
end

theorem padsZeroL_append (bytes : B) (base : Nat) (x y : List Tree) :
    Tree.padsZeroL bytes base (x ++ y) ↔ Tree.padsZeroL bytes base x ∧ Tree.padsZeroL bytes base y := by
  induction x with
  | nil => simp [Tree.padsZeroL]
  | cons t ts ih => simp only [List.cons_append, Tree.padsZeroL, ih, and_assoc]

theorem zeroAt_embed (sub pre post : B) (j s : Nat) (h : zeroAt sub j s) : zeroAt (pre ++ sub ++ post) (pre.length + j) s := by
  intro k hk
  have hs := h k hk
  rw [List.append_assoc, Nat.add_assoc, List.getElem?_append_right (Nat.le_add_right _ _), Nat.add_sub_cancel_left,
    List.getElem?_append_left (List.getElem?_eq_some_iff.mp hs).1]
  exact hs

mutual
/-- a forest that is fine for a sub-stream is fine for the stream that contains it -/
theorem Tree.embed (sub pre post : B) (p p' : Nat) (hp : p' = p + pre.length) :
    ∀ t : Tree, Tree.padsZero sub p' t → Tree.padsZero (pre ++ sub ++ post) p t
  | .node o s a pd kids, h => by
      unfold Tree.padsZero at h ⊢
      refine ⟨fun hpd => ?_, Tree.embedL sub pre post p p' hp kids h.2⟩
      obtain ⟨hle, hz⟩ := h.1 hpd
      subst hp
      refine ⟨Nat.le_trans (Nat.le_add_right _ _) hle, ?_⟩
      have e : pre.length + (o - (p + pre.length)) = o - p := by
        rw [Nat.sub_add_eq]; exact Nat.add_sub_of_le (Nat.le_sub_of_add_le' hle)
      exact e ▸ zeroAt_embed sub pre post _ s hz
theorem Tree.embedL (sub pre post : B) (p p' : Nat) (hp : p' = p + pre.length) :
    ∀ ts : List Tree, Tree.padsZeroL sub p' ts → Tree.padsZeroL (pre ++ sub ++ post) p ts
  | [], _ => trivial
  | t :: ts, h => ⟨Tree.embed sub pre post p p' hp t h.1, Tree.embedL sub pre post p p' hp ts h.2⟩
end

theorem Tree.embedL_pre (sub pre : B) (p : Nat) (ts : List Tree) (h : Tree.padsZeroL sub (p + pre.length) ts) :
    Tree.padsZeroL (pre ++ sub) p ts :=
  List.append_nil (pre ++ sub) ▸ Tree.embedL sub pre [] p (p + pre.length) rfl ts h

theorem Tree.embedL_post (sub post : B) (p : Nat) (ts : List Tree) (h : Tree.padsZeroL sub p ts) :
    Tree.padsZeroL (sub ++ post) p ts :=
  Tree.embedL sub [] post p p rfl ts h

theorem leaf_pads (bytes : B) (base o s a : Nat) : Tree.padsZero bytes base (.node o s a false []) :=
  ⟨nofun, trivial⟩

/-- `align` + `write_bytes`: the padding node covers the zeros written by `align` -/
theorem zeroTrees_pads0 (rest : B) (pos size u : Nat) :
    Tree.padsZeroL (zeros (pad pos u) ++ rest) pos (zeroTrees pos size u) := by
  simp only [zeroTrees, padTrees]
  rw [padsZeroL_append]
  refine ⟨?_, leaf_pads _ _ _ _ _, trivial⟩
  split
  · refine ⟨⟨fun _ => ⟨Nat.le_refl _, fun k hk => ?_⟩, trivial⟩, trivial⟩
    simp [zeros, List.getElem?_append_left, hk]
  · trivial

theorem treeW_pads (bytes : B) (base : Nat) (t : Ty) (v : Val) (pos : Nat) :
    Tree.padsZero bytes base (t.treeW v pos) ↔ Tree.padsZeroL bytes base (t.trees v pos) := by
  simp [Ty.treeW, Tree.padsZero]

/-- a leaf `write` of the bytes `w` (a tag or a length), then a forest over what follows -/
theorem pads_leaf (w : B) {k : Nat} (hk : w.length = k) {r : B} {pos : Nat} {rest : List Tree}
    (hr : Tree.padsZeroL r (pos + k) rest) : Tree.padsZeroL (w ++ r) pos (.node pos k 0 false [] :: rest) :=
  ⟨leaf_pads _ _ _ _ _, Tree.embedL_pre r w pos rest (hk ▸ hr)⟩

/-- a written value, then a forest over what follows -/
theorem pads_write {t : Ty} {v : Val} {pos : Nat} {r : B} {rest : List Tree}
    (hv : Tree.padsZeroL (t.enc v pos) pos (t.trees v pos))
    (hr : Tree.padsZeroL r (pos + (t.enc v pos).length) rest) :
    Tree.padsZeroL (t.enc v pos ++ r) pos (t.treeW v pos :: rest) :=
  ⟨(treeW_pads _ _ t v pos).2 (Tree.embedL_post _ r pos _ hv), Tree.embedL_pre r _ pos rest hr⟩

/-- a written value at the end -/
theorem pads_write_last {t : Ty} {v : Val} {pos : Nat}
    (hv : Tree.padsZeroL (t.enc v pos) pos (t.trees v pos)) : Tree.padsZeroL (t.enc v pos) pos [t.treeW v pos] :=
  ⟨(treeW_pads _ _ t v pos).2 hv, trivial⟩

theorem pads_all :
    (∀ t v pos, Tree.padsZeroL (Ty.enc t v pos) pos (Ty.trees t v pos)) ∧
    (∀ vs i vals pos, Tree.padsZeroL (Variants.enc vs i vals pos) pos (Variants.trees vs i vals pos)) ∧
    (∀ f vs pos, Tree.padsZeroL (Fields.enc f vs pos) pos (Fields.trees f vs pos)) ∧
    (∀ t v pos, Tree.padsZeroL (Ty.enc t v pos) pos (Ty.trees t v pos)) ∧
    (∀ t vs pos, Tree.padsZeroL (Ty.encList t vs pos) pos (Ty.treesList t vs pos)) ∧
    (∀ t vs pos, Tree.padsZeroL (Ty.encSeq t vs pos) pos (Ty.treesSeq t vs pos)) := by
  apply Ty.trees.mutual_induct_unfolding
    (motive1 := fun t v pos ts => Tree.padsZeroL (Ty.enc t v pos) pos ts)
    (motive2 := fun vs i vals pos _ => Tree.padsZeroL (Variants.enc vs i vals pos) pos (Variants.trees vs i vals pos))
    (motive3 := fun f vs pos _ => Tree.padsZeroL (Fields.enc f vs pos) pos (Fields.trees f vs pos))
    (motive4 := fun t v pos _ => Tree.padsZeroL (Ty.enc t v pos) pos (Ty.trees t v pos))
    (motive5 := fun t vs pos _ => Tree.padsZeroL (Ty.encList t vs pos) pos (Ty.treesList t vs pos))
    (motive6 := fun t vs pos _ => Tree.padsZeroL (Ty.encSeq t vs pos) pos (Ty.treesSeq t vs pos))
  -- string, boxStr
  iterate 2
    intro b pos; rw [Ty.enc]
    have h := zeroTrees_pads0 b (pos + 8) b.length 1
    rw [pad_one] at h
    exact pads_leaf _ (leBytes_length 8 _) h
  -- vec, boxSlice, sliceRef
  iterate 3 (intro t vs pos ih; simpa only [Ty.enc] using ih)
  -- array, tuple
  · intro t n vs pos hz; simpa only [Ty.enc, if_pos hz] using zeroTrees_pads0 _ pos _ _
  · intro t n vs pos hz ih; simpa only [Ty.enc, if_neg hz] using ih
  · intro t n vs pos; simpa only [Ty.enc] using zeroTrees_pads0 _ pos _ _
  -- option, bound, controlFlow: a tag byte alone, or a tag byte and the payload (clause equations as in `blocks_in_all`)
  · intro t pos; exact ⟨leaf_pads _ _ _ _ _, trivial⟩
  · intro t v pos ih; rw [Ty.enc_option]; exact pads_leaf [1] rfl (pads_write_last ih)
  · intro t pos; exact ⟨leaf_pads _ _ _ _ _, trivial⟩
  · intro t v pos ih; rw [Ty.enc_bound]; exact pads_leaf [1] rfl (pads_write_last ih)
  · intro t v pos ih; rw [Ty.enc_bound]; exact pads_leaf [2] rfl (pads_write_last ih)
  · intro b c v pos ih; rw [Ty.enc_controlFlow]; exact pads_leaf [0] rfl (pads_write_last ih)
  · intro b c v pos ih; rw [Ty.enc_controlFlow]; exact pads_leaf [1] rfl (pads_write_last ih)
  -- ranges
  · intro t a b pos iha ihb; rw [Ty.enc_range]; exact pads_write iha (pads_write_last ihb)
  · intro t a b pos p2 p3 iha ihb; rw [Ty.enc_range]; dsimp only; rw [List.append_assoc]
    exact pads_write iha (pads_write ihb ⟨leaf_pads _ _ _ _ _, trivial⟩)
  iterate 3 (intro t a pos ih; rw [Ty.enc_range]; exact pads_write_last ih)
  -- derived types; every other shape
  · intro m vs fs pos hz; simpa only [Ty.enc_adt_zero, hz] using zeroTrees_pads0 _ pos _ _
  · intro m fs pos hz name fds ih; simpa only [Ty.enc_adt, if_neg hz] using ih
  · intros; trivial
  · intro m vs i fs pos hz; simpa only [Ty.enc_adt_zero_variant, hz] using zeroTrees_pads0 _ pos _ _
  · intro m vs i fs pos hz ih; rw [Ty.enc_adt_enum _ _ _ _ _ (eq_false_of_ne_true hz)]
    exact pads_leaf _ (leBytes_length 8 _) ih
  · intros; trivial
  -- variants
  · intros; rw [Variants.trees]; trivial
  · intro name fs rest vals pos ih; simpa only [Variants.trees, Variants.enc] using ih
  · intro name fs r i vals pos ih; simpa only [Variants.trees, Variants.enc] using ih
  -- fields
  · intro name e t r v vs pos ihv ihr; rw [Fields.trees, Fields.enc]; exact pads_write ihv ihr
  · intro f vs pos h; rw [Fields.trees.eq_2 _ _ _ h]; trivial
  -- a written value
  · intro t v pos ih; exact ih
  -- items one after the other
  · intros; rw [Ty.treesList]; trivial
  · intro t v vs pos ihv ihr; rw [Ty.treesList, Ty.encList]; exact pads_write ihv ihr
  -- a length word, then one block or the items
  · intro t vs pos hz; rw [Ty.treesSeq, Ty.encSeq, if_pos hz, if_pos hz, List.append_assoc]
    exact pads_leaf _ (leBytes_length 8 _) (zeroTrees_pads0 _ _ _ _)
  · intro t vs pos hz ih; rw [Ty.treesSeq, Ty.encSeq, if_neg hz, if_neg hz]
    exact pads_leaf _ (leBytes_length 8 _) ih

theorem Ty.pads : ∀ (t : Ty) (v : Val), t.wt v = true → ∀ pos, Tree.padsZeroL (t.enc v pos) pos (t.trees v pos) :=
  fun t v _ pos => pads_all.1 t v pos
theorem Fields.pads : ∀ (f : Fields) (vs : List Val), f.wt vs = true → ∀ pos, Tree.padsZeroL (f.enc vs pos) pos (f.trees vs pos) :=
  fun f vs _ pos => pads_all.2.2.1 f vs pos
theorem Variants.pads : ∀ (vs : Variants) (i : Nat) (fs : List Val), vs.wt i fs = true → ∀ pos,
    Tree.padsZeroL (vs.enc i fs pos) pos (vs.trees i fs pos) :=
  fun vs i fs _ pos => pads_all.2.1 vs i fs pos

end Eps
