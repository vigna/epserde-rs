/-
  What `Ty.wf` says of the parts of a type (the projections follow the order of the conjuncts in
  `Wf.lean`), what `Ty.wt` says of the parts of a value, and that alignments are positive.
-/
import EpsModel.Wf
namespace Eps

theorem Ty.wf_vec {t : Ty} (h : (Ty.vec t).wf = true) : t.wf = true := by
  simp only [Ty.wf, Bool.and_eq_true] at h; exact h.1
theorem Ty.wf_boxSlice {t : Ty} (h : (Ty.boxSlice t).wf = true) : t.wf = true := by
  simp only [Ty.wf, Bool.and_eq_true] at h; exact h.1
theorem Ty.wf_array {t : Ty} {n : Nat} (h : (Ty.array t n).wf = true) : t.wf = true := by
  simp only [Ty.wf, Bool.and_eq_true] at h; exact h.1
theorem Ty.wf_tuple {t : Ty} {n : Nat} (h : (Ty.tuple t n).wf = true) : t.wf = true ∧ t.isZC = true := by
  simp only [Ty.wf, Bool.and_eq_true] at h; exact h.1.1
theorem Ty.wf_controlFlow {b c : Ty} (h : (Ty.controlFlow b c).wf = true) : b.wf = true ∧ c.wf = true := by
  simpa only [Ty.wf, Bool.and_eq_true] using h
theorem Ty.wf_range {k : RangeK} {t : Ty} (h : (Ty.range k t).wf = true) : t.wf = true ∧ t.isZC = true := by
  simp only [Ty.wf, Bool.and_eq_true] at h; exact h.1.1
theorem Ty.wf_range_size {k : RangeK} {t : Ty} (h : (Ty.range k t).wf = true) :
    pow2b t.sizeOf = true ∧ t.alignOf ≤ t.sizeOf := by
  simp only [Ty.wf, Bool.and_eq_true, decide_eq_true_eq] at h; exact ⟨h.1.2, h.2⟩
theorem Ty.wf_adt_align {m : AdtMeta} {vs : Variants} (h : (Ty.adt m vs).wf = true) : pow2b m.alignAttr = true := by
  simp only [Ty.wf, Bool.and_eq_true] at h; exact h.1.1.1.1
theorem Ty.wf_adt {m : AdtMeta} {vs : Variants} (h : (Ty.adt m vs).wf = true) : vs.wf = true := by
  simp only [Ty.wf, Bool.and_eq_true] at h; exact h.1.1.1.2
theorem Ty.wf_adt_length {m : AdtMeta} {vs : Variants} (h : (Ty.adt m vs).wf = true) : vs.length < 2 ^ 64 := by
  simp only [Ty.wf, Bool.and_eq_true, decide_eq_true_eq] at h; exact h.1.1.2
theorem Ty.wf_struct {m : AdtMeta} {n : B} {fds : Fields} (h : (Ty.adt m (.cons n fds .nil)).wf = true) :
    fds.wf = true := by
  simpa only [Variants.wf, Bool.and_true] using Ty.wf_adt h
theorem Fields.wf_cons {n : B} {e : Bool} {t : Ty} {r : Fields} (h : (Fields.cons n e t r).wf = true) :
    t.wf = true ∧ r.wf = true := by
  simpa only [Fields.wf, Bool.and_eq_true] using h
theorem Variants.wf_cons {n : B} {fs : Fields} {r : Variants} (h : (Variants.cons n fs r).wf = true) :
    fs.wf = true ∧ r.wf = true := by
  simpa only [Variants.wf, Bool.and_eq_true] using h

theorem Ty.wf_adt_zero {m : AdtMeta} {vs : Variants} (h : (Ty.adt m vs).wf = true) (hz : m.zero = true) :
    vs.allZC = true ∧ vs.length < 2 ^ 32 := by
  simp only [Ty.wf, Bool.and_eq_true, hz, if_true, decide_eq_true_eq] at h; exact h.1.2

theorem Ty.isZC_adt {m : AdtMeta} {vs : Variants} (hw : (Ty.adt m vs).wf = true) (hz : m.zero = true) :
    (Ty.adt m vs).isZC = true := by
  simp only [Ty.isZC, hz, (Ty.wf_adt_zero hw hz).1, Bool.and_self]

theorem Ty.isZC_tuple {t : Ty} {n : Nat} (hw : (Ty.tuple t n).wf = true) : (Ty.tuple t n).isZC = true := by
  simp only [Ty.wf, Bool.and_eq_true] at hw
  simp only [Ty.isZC, hw.1.1.2, hw.1.2, hw.2, Bool.and_self]

theorem wtList_iff {t : Ty} : ∀ {vs : List Val}, Ty.wtList t vs = true ↔ ∀ v ∈ vs, t.wt v = true
  | [] => by simp [Ty.wtList]
  | v :: vs => by simp [Ty.wtList, wtList_iff (vs := vs)]

theorem roundUp_ge (n a : Nat) (ha : 0 < a) : n ≤ roundUp n a := by
  unfold roundUp
  have h := Nat.div_add_mod (n + (a - 1)) a
  have hlt := Nat.mod_lt (n + (a - 1)) ha
  rw [Nat.mul_comm] at h
  omega

mutual
theorem Ty.alignOf_pos : ∀ t : Ty, 0 < t.alignOf
  | .prim p => Nat.lt_of_lt_of_le Nat.one_pos (Nat.le_max_right p.size 1)
  | .array t _ | .tuple t _ | .range _ t => Ty.alignOf_pos t
  | .adt m vs => by
      unfold Ty.alignOf
      split <;> exact Nat.lt_of_lt_of_le (Variants.maxAlign_pos vs) (Nat.le_max_right _ _)
  | .phantom _ | .string | .boxStr | .vec _ | .boxSlice _ | .option _ | .bound _ | .controlFlow _ _ | .rangeFull
  | .sliceRef _ | .serIter _ => Nat.one_pos
theorem Fields.maxAlign_pos : ∀ f : Fields, 0 < f.maxAlign
  | .nil => Nat.one_pos
  | .cons _ _ t _ => Nat.lt_of_lt_of_le (Ty.alignOf_pos t) (Nat.le_max_left _ _)
theorem Variants.maxAlign_pos : ∀ v : Variants, 0 < v.maxAlign
  | .nil => Nat.one_pos
  | .cons _ fs _ => Nat.lt_of_lt_of_le (Fields.maxAlign_pos fs) (Nat.le_max_left _ _)
end

theorem Variants.wt_lt : ∀ (vs : Variants) (i : Nat) (vals : List Val), vs.wt i vals = true → i < vs.length
  | .nil, _, _, h => by unfold Variants.wt at h; cases h
  | .cons _ _ _, 0, _, _ => Nat.succ_pos _
  | .cons _ _ r, i+1, vals, h => by
      unfold Variants.wt at h
      exact Nat.succ_lt_succ (Variants.wt_lt r i vals h)

theorem Prim.wt_lt {p : Prim} {n : Nat} (h : p.wt n = true) : n < 2 ^ (8 * p.size) := by
  cases p with
  | int k | f32 | f64 => simpa [Prim.wt, Prim.size] using h
  | nz k => simp [Prim.wt, Prim.size] at h ⊢; exact h.1
  | bool | char => simp [Prim.wt, Prim.size, isScalar] at h ⊢; omega
  | unit => cases h

end Eps
