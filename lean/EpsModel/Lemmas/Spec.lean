/-
  What a reader does where the writer wrote: one predicate, `Spec`, for the three facts every
  reader of the crate satisfies on the writer's output (`ok`: all blocks placed, the value comes
  back and the rest of the stream is untouched; `mis`: a misplaced block gives `AlignmentError`;
  `short`: a strict prefix never gives a value), closed under sequencing (`Spec.bind`).
-/
import EpsModel.Lemmas.Read
import EpsModel.Lemmas.Mem
namespace Eps

def Borrow.toBlock (b : Borrow) : Block := ⟨b.off, b.len, b.unit⟩

/-- What `deserialize_eps_zero` returns for `v` at `off`: a reference into the buffer, dangling
    for a zero-sized type. -/
def EVal.zeroRef (t : Ty) (v : Val) (off : Nat) : EVal := if t.sizeOf = 0 then .zRef t v else .bRef off t v

/-- Outcome on truncated input: the generic reader reports a read error, the slice reader fails
    in one way or another (bounds-check panic, read error, alignment error). -/
def Short : Mode → Res α → Prop
  | .reader, r => r = .err .readError
  | .slice _, r => NotOk r

theorem Short.readError : ∀ {m : Mode}, Short m (.err .readError : Res α)
  | .reader => rfl
  | .slice _ => NotOk.err _

theorem Short.panic {base : Nat} : Short (.slice base) (.panic : Res α) := NotOk.panic

theorem Short.bind {m : Mode} {r : Res α} (f : α → Res β) (h : Short m r) : Short m (r.bind f) := by
  cases m with
  | reader => rw [h]; rfl
  | slice _ => exact NotOk.bind f h

/-- Only a slice can be misplaced, and there every failure counts. -/
theorem Short.of_misplaced {m : Mode} {bs : List Block} (h : ¬ AlignedAll m bs) (e : Err) :
    Short m (.err e : Res α) := by
  cases m with
  | reader => exact absurd (AlignedAll_reader bs) h
  | slice _ => exact NotOk.err e

theorem AlignedAll_one {m : Mode} {off len u : Nat} : AlignedAll m [⟨off, len, u⟩] ↔ ModeOK m off u :=
  ⟨fun h => h _ (List.mem_singleton.mpr rfl), fun h b hb => by rw [List.mem_singleton.mp hb]; exact h⟩

theorem AlignedAll_unit1 (m : Mode) {off len : Nat} : AlignedAll m [⟨off, len, 1⟩] :=
  AlignedAll_one.mpr (match m with | .reader => trivial | .slice _ => Nat.mod_one _)

/-- `r` is a reader started at position `pos`, where the writer wrote `w` whose zero-copy blocks
    are `bs`, and `a` is what it should return. -/
structure Spec (m : Mode) (r : B → RRes α) (w : B) (pos : Nat) (bs : List Block) (a : α) : Prop where
  ok : AlignedAll m bs → ∀ rest, r (w ++ rest) = .ok (a, rest, pos + w.length)
  mis : ¬ AlignedAll m bs → ∀ rest, r (w ++ rest) = .err .alignment
  short : ∀ p, SPre p w → Short m (r p)

-- The steps below are named after the readers they are about (`Spec.readExact`, `Spec.decFullStr` …): once such a
-- step is stated, the bare name means the step, and the reader is written `Eps.readExact`.
namespace Spec
variable {m : Mode} {r : B → RRes α} {w w₁ w₂ : B} {pos : Nat} {bs bs₁ bs₂ : List Block} {a : α} {b : β}

theorem congr {r' : B → RRes α} {w' : B} {bs' : List Block} (h : Spec m r w pos bs a)
    (hr : ∀ d, r' d = r d) (hw : w' = w) (hb : bs' = bs) : Spec m r' w' pos bs' a := by
  have : r' = r := funext hr
  subst this hw hb; exact h

theorem pure (m : Mode) (a : α) (pos : Nat) : Spec m (fun d => .ok (a, d, pos)) [] pos [] a :=
  ⟨fun _ _ => rfl, fun h => absurd (AlignedAll_nil m) h, fun _ h => spre_nil_absurd h⟩

/-- Sequencing for truncation alone: what follows `w₁` need not be readable, only fail when cut. -/
theorem short_bind {f : α × B × Nat → RRes β} {n : Nat} (h₁ : Spec m r w₁ pos bs a) (hn : w₁.length = n)
    (h₂ : ∀ p, SPre p w₂ → Short m (f (a, p, pos + n))) (p : B) (hp : SPre p (w₁ ++ w₂)) :
    Short m ((r p).bind f) := by
  subst hn
  rcases spre_append hp with h | ⟨q, rfl, hq⟩
  · exact (h₁.short p h).bind f
  · by_cases ha : AlignedAll m bs
    · rw [h₁.ok ha q]; exact h₂ q hq
    · rw [h₁.mis ha q]; exact Short.of_misplaced ha _

/-- Sequencing: the continuation starts where the first writer stopped (`n` bytes further). -/
theorem bind {f : α × B × Nat → RRes β} {n : Nat} (h₁ : Spec m r w₁ pos bs₁ a) (hn : w₁.length = n)
    (h₂ : Spec m (fun d => f (a, d, pos + n)) w₂ (pos + n) bs₂ b) :
    Spec m (fun d => (r d).bind f) (w₁ ++ w₂) pos (bs₁ ++ bs₂) b where
  ok ha rest := by
    rw [AlignedAll_append] at ha
    subst hn
    simp only [List.append_assoc, h₁.ok ha.1, Res.bind_ok, h₂.ok ha.2, List.length_append, Nat.add_assoc]
  mis ha rest := by
    subst hn
    simp only [List.append_assoc]
    by_cases h1 : AlignedAll m bs₁
    · rw [h₁.ok h1, Res.bind_ok, h₂.mis (fun h2 => ha (AlignedAll_append.mpr ⟨h1, h2⟩))]
    · rw [h₁.mis h1]; rfl
  short := h₁.short_bind hn h₂.short

/-- Sequencing when only the first part has blocks (when only the second has, `bind` does: `[] ++ bs` is `bs`
    by computation). -/
theorem bindL {f : α × B × Nat → RRes β} {n : Nat} (h₁ : Spec m r w₁ pos bs a) (hn : w₁.length = n)
    (h₂ : Spec m (fun d => f (a, d, pos + n)) w₂ (pos + n) [] b) :
    Spec m (fun d => (r d).bind f) (w₁ ++ w₂) pos bs b :=
  (h₁.bind hn h₂).congr (fun _ => rfl) rfl (List.append_nil bs).symm

theorem map {f : α × B × Nat → RRes β} (h : Spec m r w pos bs a) (hf : ∀ d p, f (a, d, p) = .ok (b, d, p)) :
    Spec m (fun d => (r d).bind f) w pos bs b :=
  ⟨fun ha rest => by rw [h.ok ha rest]; exact hf rest _, fun ha rest => by rw [h.mis ha rest]; rfl,
    fun p hp => (h.short p hp).bind f⟩

/-- A block of unit 1 is on its unit wherever it lies. -/
theorem unit1 (h : Spec m r w pos [] a) (off len : Nat) : Spec m r w pos [⟨off, len, 1⟩] a :=
  ⟨fun _ => h.ok (AlignedAll_nil m), fun ha => absurd (AlignedAll_unit1 m) ha, h.short⟩

theorem ite_pos {c : Prop} [Decidable c] {r' : B → RRes α} (hc : c) (h : Spec m r w pos bs a) :
    Spec m (fun d => if c then r d else r' d) w pos bs a :=
  h.congr (fun _ => if_pos hc) rfl rfl

theorem ite_neg {c : Prop} [Decidable c] {r' : B → RRes α} (hc : ¬ c) (h : Spec m r w pos bs a) :
    Spec m (fun d => if c then r' d else r d) w pos bs a :=
  h.congr (fun _ => if_neg hc) rfl rfl

theorem readExact (m : Mode) (a : B) (pos : Nat) {n : Nat} (hn : a.length = n) :
    Spec m (fun d => readExact n d pos) a pos [] a where
  ok _ rest := by rw [readExact_append a rest pos hn, hn]
  mis h := absurd (AlignedAll_nil m) h
  short p hp := by rw [readExact_short n p pos (hn ▸ hp.length_lt)]; exact Short.readError

theorem takeOrPanic (base : Nat) (a : B) (pos : Nat) {n : Nat} (hn : a.length = n) :
    Spec (.slice base) (fun d => takeOrPanic n d pos) a pos [] a where
  ok _ rest := by rw [takeOrPanic_append a rest pos hn, hn]
  mis h := absurd (AlignedAll_nil _) h
  short p hp := by rw [takeOrPanic_short n p pos (hn ▸ hp.length_lt)]; exact Short.panic

theorem readWord (m : Mode) {w n : Nat} (pos : Nat) (h : n < 2 ^ (8 * w)) :
    Spec m (fun d => readWord w d pos) (leBytes w n) pos [] n :=
  (readExact m (leBytes w n) pos (leBytes_length w n)).map fun _ _ => by simp only [leVal_leBytes w n h]

theorem word {f : Nat × B × Nat → RRes β} {ws : B} {w n : Nat} (hlt : n < 2 ^ (8 * w))
    (h : Spec m (fun d => f (n, d, pos + w)) ws (pos + w) bs b) :
    Spec m (fun d => (Eps.readWord w d pos).bind f) (leBytes w n ++ ws) pos bs b :=
  (readWord m pos hlt).bind (leBytes_length w n) h

theorem word_short {f : Nat × B × Nat → RRes β} {ws : B} {w n : Nat} (hlt : n < 2 ^ (8 * w))
    (h : ∀ p, SPre p ws → Short m (f (n, p, pos + w))) (p : B) (hp : SPre p (leBytes w n ++ ws)) :
    Short m ((Eps.readWord w p pos).bind f) :=
  (readWord m pos hlt).short_bind (leBytes_length w n) h p hp

theorem tag {f : Nat × B × Nat → RRes β} {t : UInt8} (n : Nat) (hn : t.toNat = n)
    (h : Spec m (fun d => f (n, d, pos + 1)) w (pos + 1) bs b) :
    Spec m (fun d => (Eps.readWord 1 d pos).bind f) (t :: w) pos bs b :=
  bind (w₁ := [t]) ((readExact m [t] pos rfl).map fun _ _ => by simp [leVal, hn]) rfl h

/-- `align`: the padding, then the address check for the block that follows. -/
theorem alignRead (m : Mode) (u pos len : Nat) :
    Spec m (fun d => alignRead m u d pos) (zeros (pad pos u)) pos [⟨pos + pad pos u, len, u⟩] () where
  ok h rest := by rw [alignRead_ok m u pos rest (AlignedAll_one.mp h), zeros_length]
  mis h rest := by
    cases m with
    | reader => exact absurd (AlignedAll_reader _) h
    | slice base => exact alignRead_bad base u pos rest fun hm => h (AlignedAll_one.mpr hm)
  short p hp := by
    have hl : p.length < pad pos u := by simpa using hp.length_lt
    cases m with
    | reader => exact alignRead_reader_short u pos p hl
    | slice base => rw [alignRead_slice_short base u pos p hl]; exact Short.panic

/-- `align`, then the block `w` it is for. -/
theorem align {f : Unit × B × Nat → RRes β} (u len : Nat)
    (h : Spec m (fun d => f ((), d, pos + pad pos u)) w (pos + pad pos u) [] b) :
    Spec m (fun d => (Eps.alignRead m u d pos).bind f) (zeros (pad pos u) ++ w) pos [⟨pos + pad pos u, len, u⟩] b :=
  (alignRead m u pos len).bindL (zeros_length _) h

theorem decFullStr (m : Mode) (b : B) (pos : Nat) (hu : validUtf8 b = true) (hl : b.length < 2 ^ 63) :
    Spec m (fun d => decFullStr d pos) (leBytes 8 b.length ++ b) pos [] (.str b) := by
  have hnot : ¬ b.length > isizeMax := by unfold isizeMax; omega
  exact word (by omega) (ite_neg hnot ((readExact m b _ rfl).map fun _ _ => by simp only [hu, if_true]))

/-- A string that is cut fails whether or not its bytes are UTF-8. -/
theorem decFullStr_short (m : Mode) (b : B) (pos : Nat) (hl : b.length < 2 ^ 63) (p : B)
    (hp : SPre p (leBytes 8 b.length ++ b)) : Short m (Eps.decFullStr p pos) := by
  have hnot : ¬ b.length > isizeMax := by unfold isizeMax; omega
  refine word_short (by omega) (fun q hq => ?_) p hp
  simp only [if_neg hnot]; exact ((readExact m b _ rfl).short q hq).bind _

theorem decFullZero (m : Mode) (t : Ty) (v : Val) (pos : Nat) (hrt : MemRT t v) :
    Spec m (fun d => decFullZero m t d pos) (zeros (pad pos t.maxSizeOf) ++ t.toMem v) pos
      [⟨pos + pad pos t.maxSizeOf, (t.toMem v).length, t.maxSizeOf⟩] v :=
  align _ _ ((readExact m _ _ hrt.1).map fun _ _ => by simp only [hrt.fromMem_toMem])

theorem decFullVecZero (m : Mode) (t : Ty) (vs : List Val) (pos : Nat) (hrt : ∀ v ∈ vs, MemRT t v)
    (hl : vs.length < 2 ^ 63) (hb : vs.length * t.sizeOf < 2 ^ 63) :
    Spec m (fun d => decFullVecZero m t d pos)
      (leBytes 8 vs.length ++ zeros (pad (pos + 8) t.maxSizeOf) ++ Ty.toMemList t vs) pos
      [⟨pos + 8 + pad (pos + 8) t.maxSizeOf, (Ty.toMemList t vs).length, t.maxSizeOf⟩] vs := by
  have hlen := (fromMemList_toMemList t vs hrt).1
  have hnot : ¬ vs.length * t.sizeOf > isizeMax := by unfold isizeMax; omega
  rw [List.append_assoc]
  exact word (by omega) (align _ _ (ite_neg hnot ((readExact m _ _ hlen).map fun _ _ => by
    simp only [fromMemList_toMemList_self t vs hrt])))

/-- `deserialize_eps_slice_zero::<T>` over the length `n` and any `n * size_of::<T>()` bytes. -/
theorem decEpsSliceBytes (base : Nat) (t : Ty) (n : Nat) (c : B) (pos : Nat) (hc : c.length = n * t.sizeOf)
    (hl : n < 2 ^ 63) (hb : n * t.sizeOf < 2 ^ 63) :
    Spec (.slice base) (fun d => decEpsSliceZero base t d pos)
      (leBytes 8 n ++ (zeros (pad (pos + 8) t.maxSizeOf) ++ c)) pos
      [⟨pos + 8 + pad (pos + 8) t.maxSizeOf, c.length, t.maxSizeOf⟩]
      (pos + 8 + pad (pos + 8) t.maxSizeOf, c, Ty.fromMemList t n c) := by
  have hnot : ¬ n * t.sizeOf ≥ 2 ^ 64 := by omega
  exact word (by omega) (ite_neg hnot (align _ _ ((takeOrPanic base c _ hc).map fun _ _ => rfl)))

theorem decEpsSliceZero (base : Nat) (t : Ty) (vs : List Val) (pos : Nat) (hrt : ∀ v ∈ vs, MemRT t v)
    (hl : vs.length < 2 ^ 63) (hb : vs.length * t.sizeOf < 2 ^ 63) :
    Spec (.slice base) (fun d => decEpsSliceZero base t d pos)
      (leBytes 8 vs.length ++ zeros (pad (pos + 8) t.maxSizeOf) ++ Ty.toMemList t vs) pos
      [⟨pos + 8 + pad (pos + 8) t.maxSizeOf, (Ty.toMemList t vs).length, t.maxSizeOf⟩]
      (pos + 8 + pad (pos + 8) t.maxSizeOf, Ty.toMemList t vs, vs) := by
  have := decEpsSliceBytes base t vs.length (Ty.toMemList t vs) pos (fromMemList_toMemList t vs hrt).1 hl hb
  rwa [fromMemList_toMemList_self t vs hrt, ← List.append_assoc] at this

theorem decEpsZero (base : Nat) (t : Ty) (v : Val) (pos : Nat) (hrt : MemRT t v) :
    Spec (.slice base) (fun d => decEpsZero base t d pos) (zeros (pad pos t.maxSizeOf) ++ t.toMem v) pos
      [⟨pos + pad pos t.maxSizeOf, (t.toMem v).length, t.maxSizeOf⟩] (EVal.zeroRef t v (pos + pad pos t.maxSizeOf)) := by
  have hv := hrt.fromMem_toMem
  unfold EVal.zeroRef
  by_cases h0 : t.sizeOf = 0
  · have hnil : t.toMem v = [] := List.eq_nil_of_length_eq_zero (hrt.1.trans h0)
    rw [hnil] at hv ⊢
    refine align _ _ ?_
    simp only [h0, hv, beq_self_eq_true, if_true]
    exact pure _ _ _
  · refine align _ _ ?_
    simp only [beq_iff_eq, h0, if_false]
    exact (takeOrPanic base _ _ hrt.1).map fun _ _ => by simp only [hv]

end Spec

theorem decFullStr_ok (b rest : B) (pos : Nat) (hu : validUtf8 b = true) (hl : b.length < 2^63) :
    decFullStr (leBytes 8 b.length ++ b ++ rest) pos = .ok (.str b, rest, pos + (8 + b.length)) := by
  rw [(Spec.decFullStr .reader b pos hu hl).ok (AlignedAll_nil _) rest, List.length_append, leBytes_length]

end Eps
