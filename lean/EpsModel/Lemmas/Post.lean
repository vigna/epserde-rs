/-
  Partial correctness of readers: `r.Post Q` says that if the reader result `r` is a value `(a, d', p')` then
  `Q a d' p'`. "A result of the ε-copy reader has the shape of the ε-copy type" (ConformL), "the rest is no longer
  than the input" (`Shr`) and "the full-copy reader returns what the ε-copy result describes" (Agree) are of this
  form; they are proved by walking through the reader with `Post.bind` / `Post.seq`, `Post.ite`, `Post.ok` and
  `Post.decMany`.
-/
import EpsModel.Lemmas.Read
namespace Eps

def Res.Post (r : RRes α) (Q : α → B → Nat → Prop) : Prop := ∀ a d' p', r = .ok (a, d', p') → Q a d' p'

namespace Res.Post
variable {α β : Type} {P Q : α → B → Nat → Prop}

theorem ok {a : α} {d : B} {p : Nat} (h : Q a d p) : Post (.ok (a, d, p)) Q := by
  intro _ _ _ e; cases e; exact h

theorem err (e : Err) : Post (.err e : RRes α) Q := fun _ _ _ h => nomatch h

theorem panic : Post (.panic : RRes α) Q := fun _ _ _ h => nomatch h

/-- The continuation is run on values of `r` only. -/
theorem bind {r : RRes α} {f : α × B × Nat → RRes β} {Q : β → B → Nat → Prop}
    (h : ∀ a d p, r = .ok (a, d, p) → Post (f (a, d, p)) Q) : Post (r.bind f) Q := fun b d' p' hb =>
  let ⟨(a, d, p), hr, hf⟩ := Res.bind_eq_ok hb
  h a d p hr b d' p' hf

theorem seq {r : RRes α} {f : α × B × Nat → RRes β} {Q : β → B → Nat → Prop} (hr : Post r P)
    (h : ∀ a d p, P a d p → Post (f (a, d, p)) Q) : Post (r.bind f) Q :=
  bind fun a d p e => h a d p (hr a d p e)

theorem mono {r : RRes α} (hr : Post r P) (h : ∀ a d p, P a d p → Q a d p) : Post r Q :=
  fun a d p e => h a d p (hr a d p e)

theorem ite {c : Prop} [Decidable c] {r r' : RRes α} (h : c → Post r Q) (h' : ¬c → Post r' Q) :
    Post (if c then r else r') Q := by
  split
  · exact h ‹c›
  · exact h' ‹¬c›

/-- The item loop: a relation between the state before, the items and the state after that holds
    of no item and is carried over one more item in front holds of every value of the loop. -/
theorem decMany {rd : B → Nat → RRes α} {R : Nat → B → Nat → List α → B → Nat → Prop}
    (nil : ∀ d pos, R 0 d pos [] d pos)
    (cons : ∀ n d pos a d1 p1 as d2 p2, rd d pos = .ok (a, d1, p1) → R n d1 p1 as d2 p2 →
      R (n + 1) d pos (a :: as) d2 p2) :
    ∀ (n : Nat) (d : B) (pos : Nat), Post (Eps.decMany rd n d pos) (R n d pos)
  | 0, d, pos => ok (nil d pos)
  | n+1, d, pos =>
      bind fun a d1 p1 h1 => seq (decMany nil cons n d1 p1) fun as d2 p2 h2 =>
        ok (cons n d pos a d1 p1 as d2 p2 h1 h2)

end Res.Post

end Eps
