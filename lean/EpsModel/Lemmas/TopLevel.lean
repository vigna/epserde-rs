/-
  The top-level entry points on a serialized stream: `deserialize_full` / `deserialize_eps` are the
  header check followed by the body reader at the position where the header ends.
-/
import EpsModel.Lemmas.HeaderL
import EpsModel.Lemmas.Framing
namespace Eps

/-- A stream: the header, then the body at the position where the header ends. -/
theorem Ty.ser_spec {m : Mode} {H : B → Nat} (hH : ∀ b, H b < 2 ^ 64) {T : Ty} {name : B}
    (hu : validUtf8 name = true) (hl : name.length < 2 ^ 63) {v : Val} {a : α}
    {body : B → Nat → RRes α} {bs : List Block}
    (h : Spec m (fun d => body d (T.header H name).length) (T.enc v (T.header H name).length)
      (T.header H name).length bs a) :
    Spec m (fun d => (checkHeader (T.typeHash H) (T.alignHash H) d 0).bind fun (_, d, pos) => body d pos)
      (T.ser H name v) 0 bs a :=
  (checkHeader_spec m (th := T.typeHash H) (ah := T.alignHash H) (hH _) (hH _) hu hl).bind rfl
    (f := fun x => body x.2.1 x.2.2) (by rw [Nat.zero_add]; exact h)

theorem Ty.deFull_eq (H : B → Nat) (T : Ty) (d : B) :
    T.deFull H d = ((checkHeader (T.typeHash H) (T.alignHash H) d 0).bind fun (_, d, pos) =>
      T.decFull .reader d pos).bind fun (v, _, pos) => .ok (v, pos) :=
  (Res.bind_assoc _ _ _).symm

theorem Ty.deEps_eq (H : B → Nat) (T : Ty) (base : Nat) (d : B) :
    T.deEps H base d = ((checkHeader (T.typeHash H) (T.alignHash H) d 0).bind fun (_, d, pos) =>
      T.decEps base d pos).bind fun (v, _, pos) => .ok (v, pos) :=
  (Res.bind_assoc _ _ _).symm

/-- `deserialize_eps(serialize(v) ++ rest)` when every block lands on its unit. -/
theorem Ty.deEps_ser_append (H : B → Nat) (hH : ∀ b, H b < 2^64) (T : Ty) (name : B) (v : Val) (base : Nat) (rest : B)
    (hT : T.wf = true) (hv : T.wt v = true) (hname : validUtf8 name = true) (hlen : name.length < 2^63)
    (ha : AlignedAll (.slice base) (T.blocks v (T.header H name).length)) :
    ∃ e, T.deEps H base (T.ser H name v ++ rest) = .ok (e, (T.ser H name v).length) ∧ e.erase = v
      ∧ ∀ b ∈ e.borrows, b.toBlock ∈ T.blocks v (T.header H name).length := by
  obtain ⟨e, hs, hf⟩ := (Ty.epsSpec base).ty T hT v hv (T.header H name).length
  refine ⟨e, ?_, hf⟩
  rw [Ty.deEps_eq, (Ty.ser_spec hH hname hlen hs).ok ha rest, Nat.zero_add]; rfl

end Eps
