/-
  `AlignedCursor<A>` (utils/aligned_cursor.rs) and the specification it is meant to refine,
  `std::io::Cursor<Vec<u8>>`, as two small state machines over the same operations.
-/
import EpsModel.Basic
namespace Eps.Cur

inductive SeekFrom where
  | start (n : Nat)
  | «end» (i : Int)
  | current (i : Int)
  deriving Repr, DecidableEq

inductive Op where
  | write (buf : B)
  | read (n : Nat)
  | seek (s : SeekFrom)
  | setPos (n : Nat)
  | flush
  -- provided methods of `Read` / `Write` (overridden by both cursors, or built from `read` / `write`)
  | readToEnd
  | readExact (n : Nat)
  | writeAll (buf : B)
  -- vectored I/O (overridden by both cursors): any number of buffers, empty ones included
  | writeV (bufs : List B)
  | readV (ns : List Nat)
  deriving Repr, DecidableEq

inductive Out where
  | wrote (n : Nat)
  | bytes (b : B)
  | pos (n : Nat)
  | unit
  | invalidInput
  | eof            -- `UnexpectedEof` of `read_exact`
  | panic
  deriving Repr, DecidableEq

def usizeMax : Nat := 2^64 - 1

/-- `isize::MAX`: no allocation may be larger (a `Vec` asked for more panics with "capacity overflow"). -/
def isizeMax : Nat := 2^63 - 1

/-- `base.checked_add_signed(off)` on `u64`, then the `<= usize::MAX` test. -/
def addSigned (base : Nat) (off : Int) : Option Nat :=
  let r := (base : Int) + off
  if r < 0 then none else if r.toNat > usizeMax then none else some r.toNat

/-! ### The aligned cursor -/

/-- Storage as a capacity (in bytes, a multiple of the alignment) and a total byte function; only
    indices below `cap` are backed by memory, and everything not yet written is zero. -/
structure ACur where
  cap : Nat
  get : Nat → UInt8
  pos : Nat
  len : Nat

def ACur.init : ACur := { cap := 0, get := fun _ => 0, pos := 0, len := 0 }

def ACur.asBytes (a : ACur) : B := (List.range a.len).map a.get

def ceilDiv (n a : Nat) : Nat := (n + (a - 1)) / a

/-- `with_capacity(c)`: storage for `c` bytes rounded up to whole units, nothing written -/
def ACur.withCapacity (al c : Nat) : ACur := { cap := ceilDiv c al * al, get := fun _ => 0, pos := 0, len := 0 }

/-- `write` -/
def ACur.write (al : Nat) (a : ACur) (buf : B) : ACur × Out :=
  let len := min buf.length (usizeMax - a.pos)
  if buf.length ≠ 0 ∧ len = 0 then (a, .invalidInput)
  else if isizeMax < a.pos + len then (a, .panic)   -- the storage cannot grow beyond `isize::MAX` bytes: capacity overflow, nothing changed yet
  else if len < buf.length then (a, .panic)   -- copy_from_slice length mismatch
  else
    let cap' := if a.cap < a.pos + len then ceilDiv (a.pos + len) al * al else a.cap
    let get' := fun i => if a.pos ≤ i ∧ i < a.pos + len then buf.getD (i - a.pos) 0 else a.get i
    ({ cap := cap', get := get', pos := a.pos + len, len := max a.len (a.pos + len) }, .wrote len)

/-- The same with the written bytes held in an array (constant-time indexing): what the compiled driver runs, so that
    writes of hundreds of kilobytes stay linear. Proved equal to `ACur.write`, which the theorems are about. -/
def ACur.writeImpl (al : Nat) (a : ACur) (buf : B) : ACur × Out :=
  let len := min buf.length (usizeMax - a.pos)
  if buf.length ≠ 0 ∧ len = 0 then (a, .invalidInput)
  else if isizeMax < a.pos + len then (a, .panic)
  else if len < buf.length then (a, .panic)
  else
    let cap' := if a.cap < a.pos + len then ceilDiv (a.pos + len) al * al else a.cap
    let arr := buf.toArray
    let get' := fun i => if a.pos ≤ i ∧ i < a.pos + len then arr.getD (i - a.pos) 0 else a.get i
    ({ cap := cap', get := get', pos := a.pos + len, len := max a.len (a.pos + len) }, .wrote len)

theorem getD_toArray {α : Type} (l : List α) (k : Nat) (d : α) : l.toArray.getD k d = l.getD k d := by
  simp [Array.getD_eq_getD_getElem?, List.getD_eq_getElem?_getD]

-- the two definitions differ in that one lookup only
@[csimp] theorem ACur.write_eq_writeImpl : @ACur.write = @ACur.writeImpl := by
  funext al a buf
  simp only [ACur.write, ACur.writeImpl, getD_toArray]

/-- `read` into a buffer of `n` bytes -/
def ACur.read (a : ACur) (n : Nat) : ACur × Out :=
  if a.pos ≥ a.len then (a, .bytes [])
  else
    let k := min n (a.len - a.pos)
    ({ a with pos := a.pos + k }, .bytes ((List.range k).map fun i => a.get (a.pos + i)))

/-- the loop of `write_vectored`: one `write` per buffer, the counts added up; the first failure ends it -/
def ACur.writeMany (al : Nat) : ACur → List B → Nat → ACur × Out
  | a, [], acc => (a, .wrote acc)
  | a, b :: bs, acc =>
      match a.write al b with
      | (a', .wrote n) => ACur.writeMany al a' bs (acc + n)
      | r => r

/-- the loop of `read_vectored`: the buffers (of these lengths) are filled in order; a short read ends it -/
def ACur.readMany : ACur → List Nat → B → ACur × Out
  | a, [], acc => (a, .bytes acc)
  | a, n :: ns, acc =>
      match a.read n with
      | (a', .bytes b) => if b.length < n then (a', .bytes (acc ++ b)) else ACur.readMany a' ns (acc ++ b)
      | r => r

/-- one operation of `AlignedCursor<A>` where `A` has `al` bytes -/
def ACur.step (al : Nat) (a : ACur) : Op → ACur × Out
  | .write buf => a.write al buf
  | .read n => a.read n
  | .seek (.start n) => if n > usizeMax then (a, .invalidInput) else ({ a with pos := n }, .pos n)
  | .seek (.end i) =>
      match addSigned a.len i with
      | some n => ({ a with pos := n }, .pos n)
      | none => (a, .invalidInput)
  | .seek (.current i) =>
      match addSigned a.pos i with
      | some n => ({ a with pos := n }, .pos n)
      | none => (a, .invalidInput)
  | .setPos n => ({ a with pos := n }, .unit)
  | .flush => (a, .unit)
  -- the provided `read_to_end` calls `read` until it returns nothing: one `read` of everything that is left
  | .readToEnd => a.read (a.len - a.pos)
  -- `read_exact` (overridden): all `n` bytes, or `UnexpectedEof` with the position moved to the end
  | .readExact n =>
      if n ≤ a.len - a.pos then a.read n else ({ a with pos := a.len }, .eof)
  -- `write_all` (overridden): one `write`, which takes everything or fails
  | .writeAll buf =>
      match a.write al buf with
      | (a', .wrote _) => (a', .unit)
      | r => r
  -- `write_vectored` (overridden): an empty `write` first (the gap is filled even with no buffer), then every buffer
  | .writeV bufs =>
      match a.write al [] with
      | (a', .wrote n) => ACur.writeMany al a' bufs n
      | r => r
  -- `read_vectored` (overridden)
  | .readV ns => a.readMany ns []

/-! ### The standard cursor over a byte vector -/

structure SCur where
  buf : B
  pos : Nat

def SCur.init : SCur := { buf := [], pos := 0 }

/-- `write` (`vec_write`): zeros up to the position (also for an empty write), then overwrite / extend -/
def SCur.write (s : SCur) (b : B) : SCur × Out :=
  if isizeMax < s.pos + b.length then (s, .panic) else   -- `reserve` beyond `isize::MAX`: capacity overflow, nothing changed
  let v := if s.pos > s.buf.length then s.buf ++ zeros (s.pos - s.buf.length) else s.buf
  let v' := v.take s.pos ++ b ++ v.drop (s.pos + b.length)
  ({ buf := v', pos := s.pos + b.length }, .wrote b.length)

def SCur.read (s : SCur) (n : Nat) : SCur × Out :=
  let rem := s.buf.drop (min s.pos s.buf.length)
  let k := min n rem.length
  ({ s with pos := s.pos + k }, .bytes (rem.take k))

/-- `vec_write_vectored`: the vector is padded up to the position once, then every buffer is copied behind the
    previous one — the same as one `write` per buffer after an empty `write` -/
def SCur.writeMany : SCur → List B → Nat → SCur × Out
  | s, [], acc => (s, .wrote acc)
  | s, b :: bs, acc =>
      match s.write b with
      | (s', .wrote n) => SCur.writeMany s' bs (acc + n)
      | r => r

/-- `Cursor::read_vectored`: `read` into each buffer in turn, stopping after a short one -/
def SCur.readMany : SCur → List Nat → B → SCur × Out
  | s, [], acc => (s, .bytes acc)
  | s, n :: ns, acc =>
      match s.read n with
      | (s', .bytes b) => if b.length < n then (s', .bytes (acc ++ b)) else SCur.readMany s' ns (acc ++ b)
      | r => r

def SCur.step (s : SCur) : Op → SCur × Out
  | .write b => s.write b
  | .read n => s.read n
  | .seek (.start n) => ({ s with pos := n }, .pos n)
  | .seek (.end i) =>
      match addSigned s.buf.length i with
      | some n => ({ s with pos := n }, .pos n)
      | none => (s, .invalidInput)
  | .seek (.current i) =>
      match addSigned s.pos i with
      | some n => ({ s with pos := n }, .pos n)
      | none => (s, .invalidInput)
  | .setPos n => ({ s with pos := n }, .unit)
  | .flush => (s, .unit)
  -- `read_to_end`: the remaining slice is appended, the position advanced by its length
  | .readToEnd => s.read (s.buf.length - s.pos)
  -- `read_exact`: `Ok` advances by `n`; the only error is EOF, "so place the cursor at EOF"
  | .readExact n =>
      if n ≤ s.buf.length - s.pos then s.read n else ({ s with pos := s.buf.length }, .eof)
  -- `write_all` (`vec_write_all`): the same padding and copy as `write`
  | .writeAll b =>
      match s.write b with
      | (s', .wrote _) => (s', .unit)
      | r => r
  | .writeV bufs =>
      match s.write [] with
      | (s', .wrote n) => SCur.writeMany s' bufs n
      | r => r
  | .readV ns => s.readMany ns []

/-- run a history, collecting the outputs -/
def ACur.run (al : Nat) (a : ACur) : List Op → ACur × List Out
  | [] => (a, [])
  | op :: ops => let (a', o) := a.step al op; let (a'', os) := ACur.run al a' ops; (a'', o :: os)

def SCur.run (s : SCur) : List Op → SCur × List Out
  | [] => (s, [])
  | op :: ops => let (s', o) := s.step op; let (s'', os) := SCur.run s' ops; (s'', o :: os)

end Eps.Cur
