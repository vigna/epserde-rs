/-
  Well-formed types: the part of the universe rustc and the derive macro accept, on which the
  property theorems are stated. Explicit, decidable, and satisfied by concrete types (see the
  examples next to each theorem).
-/
import EpsModel.Codec
namespace Eps

/-- `u` is a power of two not exceeding 2^63. -/
def pow2b (u : Nat) : Bool := (List.range 64).any (fun k => u == 2 ^ k)

theorem pow2b_spec {u : Nat} (h : pow2b u = true) : ∃ k, k ≤ 63 ∧ u = 2 ^ k := by
  unfold pow2b at h
  rw [List.any_eq_true] at h
  obtain ⟨k, hk, he⟩ := h
  rw [List.mem_range] at hk
  exact ⟨k, Nat.le_of_lt_succ hk, eq_of_beq he⟩

mutual
/-- The type is serializable and deserializable by the crate as the code stands, and all its
    alignment units are powers of two (which excludes ranges over index types whose size is not a
    power of two — recorded as a known finding — and nothing else). Zero-copy enums (`repr(C)`: a
    4-byte tag followed by the union of the variants) are included. -/
def Ty.wf : Ty → Bool
  | .prim _ => true
  | .phantom _ => true
  | .string => true
  | .boxStr => true
  | .vec t => t.wf && (t.isZC || t.isDeep)
  | .boxSlice t => t.wf && (t.isZC || t.isDeep)
  | .array t _ => t.wf && (t.isZC || t.isDeep)
  | .tuple t n => t.wf && t.isZC && decide (1 ≤ n) && decide (n ≤ 12)
  | .option t => t.wf
  | .bound t => t.wf
  | .controlFlow b c => b.wf && c.wf
  | .range _ t => t.wf && t.isZC && pow2b t.sizeOf && decide (t.alignOf ≤ t.sizeOf)
  | .rangeFull => true
  | .adt m vs =>
      pow2b m.alignAttr && Variants.wf vs && decide (vs.length < 2^64) &&
      (if m.zero then Variants.allZC vs && decide (vs.length < 2^32) else true) &&
      (m.isEnum || vs.length == 1)
  | .sliceRef _ => false
  | .serIter _ => false
def Fields.wf : Fields → Bool
  | .nil => true
  | .cons _ _ t r => t.wf && r.wf
def Variants.wf : Variants → Bool
  | .nil => true
  | .cons _ fs r => fs.wf && r.wf
end

end Eps
