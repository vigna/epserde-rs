/-
  The zero-copy blocks of a serialized value: where the writer aligns and calls `write_bytes`, and
  where the readers align (and, on a slice, check the address). Mirrors `enc`.
-/
import EpsModel.Codec
namespace Eps

/-- A zero-copy block: stream offset of its first byte, length in bytes, alignment unit. -/
structure Block where
  off : Nat
  len : Nat
  unit : Nat
  deriving Repr, DecidableEq

mutual
/-- Blocks of the value `v : T` serialized at stream position `pos`, in stream order. -/
def Ty.blocks : Ty → Val → Nat → List Block
  | .string, .str b, pos => [⟨pos + 8, b.length, 1⟩]
  | .boxStr, .str b, pos => [⟨pos + 8, b.length, 1⟩]
  | .vec t, .seq vs, pos => Ty.blocksSeq t vs pos
  | .boxSlice t, .seq vs, pos => Ty.blocksSeq t vs pos
  | .sliceRef t, .seq vs, pos => Ty.blocksSeq t vs pos
  | .serIter t, .seq vs, pos => Ty.blocksSeq t vs pos
  | .array t _, .seq vs, pos =>
      if t.isZC then [⟨pos + pad pos t.maxSizeOf, (Ty.toMemList t vs).length, t.maxSizeOf⟩]
      else Ty.blocksList t vs pos
  | .tuple t _, .seq vs, pos => [⟨pos + pad pos t.maxSizeOf, (Ty.toMemList t vs).length, t.maxSizeOf⟩]
  | .option t, .variant 1 [v], pos => t.blocks v (pos + 1)
  | .bound t, .variant 1 [v], pos => t.blocks v (pos + 1)
  | .bound t, .variant 2 [v], pos => t.blocks v (pos + 1)
  | .controlFlow b _, .variant 0 [v], pos => b.blocks v (pos + 1)
  | .controlFlow _ c, .variant 1 [v], pos => c.blocks v (pos + 1)
  | .range .range t, .record [a, b], pos => t.blocks a pos ++ t.blocks b (pos + (t.enc a pos).length)
  | .range .incl t, .record [a, b], pos => t.blocks a pos ++ t.blocks b (pos + (t.enc a pos).length)
  | .range .from t, .record [a], pos => t.blocks a pos
  | .range .to t, .record [a], pos => t.blocks a pos
  | .range .toIncl t, .record [a], pos => t.blocks a pos
  | .adt m vs, .record fs, pos =>
      if m.zero then
        [⟨pos + pad pos (Ty.maxSizeOf (.adt m vs)), (Ty.toMem (.adt m vs) (.record fs)).length, Ty.maxSizeOf (.adt m vs)⟩]
      else match vs with
        | .cons _ fds .nil => Fields.blocks fds fs pos
        | _ => []
  | .adt m vs, .variant i fs, pos =>
      if m.zero then
        [⟨pos + pad pos (Ty.maxSizeOf (.adt m vs)), (Ty.toMem (.adt m vs) (.variant i fs)).length, Ty.maxSizeOf (.adt m vs)⟩]
      else Variants.blocks vs i fs (pos + 8)
  | _, _, _ => []
def Ty.blocksSeq : Ty → List Val → Nat → List Block
  | t, vs, pos =>
      if t.isZC then [⟨pos + 8 + pad (pos + 8) t.maxSizeOf, (Ty.toMemList t vs).length, t.maxSizeOf⟩]
      else Ty.blocksList t vs (pos + 8)
def Ty.blocksList : Ty → List Val → Nat → List Block
  | _, [], _ => []
  | t, v :: vs, pos => t.blocks v pos ++ Ty.blocksList t vs (pos + (t.enc v pos).length)
def Fields.blocks : Fields → List Val → Nat → List Block
  | .cons _ _ t r, v :: vs, pos => t.blocks v pos ++ r.blocks vs (pos + (t.enc v pos).length)
  | _, _, _ => []
def Variants.blocks : Variants → Nat → List Val → Nat → List Block
  | .nil, _, _, _ => []
  | .cons _ fs _, 0, vals, pos => fs.blocks vals pos
  | .cons _ _ r, i+1, vals, pos => r.blocks i vals pos
end

/-- The address condition of `SliceWithPos::align` for a block at offset `off` of unit `u`;
    a generic reader makes no address check. -/
def ModeOK : Mode → Nat → Nat → Prop
  | .reader, _, _ => True
  | .slice base, off, u => (base + off) % u = 0

/-- Every block is placed on a multiple of its unit (always true for a generic reader). -/
def AlignedAll (m : Mode) (bs : List Block) : Prop := ∀ b ∈ bs, ModeOK m b.off b.unit

theorem AlignedAll_append {m : Mode} {a b : List Block} :
    AlignedAll m (a ++ b) ↔ AlignedAll m a ∧ AlignedAll m b := by
  simp [AlignedAll, List.mem_append, or_imp, forall_and]

theorem AlignedAll_reader (bs : List Block) : AlignedAll .reader bs := fun _ _ => trivial

theorem AlignedAll_nil (m : Mode) : AlignedAll m [] := fun _ h => nomatch h

end Eps
