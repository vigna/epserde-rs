import EpsModel.Alloc
import EpsModel.Basic
import EpsModel.Blocks
import EpsModel.Codec
import EpsModel.Conform
import EpsModel.Cursor
import EpsModel.Derive
import EpsModel.Hash
import EpsModel.Header
import EpsModel.IO
import EpsModel.Iter
import EpsModel.Loaders
import EpsModel.Mask
import EpsModel.Resources
import EpsModel.Schema
import EpsModel.Show
import EpsModel.Ty
import EpsModel.Val
import EpsModel.Wf
import EpsModel.XXH3
import EpsModel.ZeroGuard
import EpsModel.Lemmas.Agree
import EpsModel.Lemmas.AllocL
import EpsModel.Lemmas.Basic
import EpsModel.Lemmas.BlocksL
import EpsModel.Lemmas.Clauses
import EpsModel.Lemmas.ConformL
import EpsModel.Lemmas.CursorL
import EpsModel.Lemmas.Feeds
import EpsModel.Lemmas.Framing
import EpsModel.Lemmas.HeaderL
import EpsModel.Lemmas.TopLevel
import EpsModel.Lemmas.Mem
import EpsModel.Lemmas.Post
import EpsModel.Lemmas.Read
import EpsModel.Lemmas.SpecEps
import EpsModel.Lemmas.SpecFull
import EpsModel.Lemmas.Spec
import EpsModel.Lemmas.WtInduct
import EpsModel.Lemmas.SchemaL
import EpsModel.Lemmas.SchemaPad
import EpsModel.Lemmas.Units
import EpsModel.Lemmas.Vecify
import EpsModel.Lemmas.WfL
import EpsModel.Props.C01
import EpsModel.Props.C02
import EpsModel.Props.C03
import EpsModel.Props.C04
import EpsModel.Props.C05
import EpsModel.Props.C06
import EpsModel.Props.C07
import EpsModel.Props.C08
import EpsModel.Props.C09
import EpsModel.Props.C10
import EpsModel.Props.C11
import EpsModel.Props.C12
import EpsModel.Props.C13
import EpsModel.Props.C14
import EpsModel.Props.C15
import EpsModel.Props.C16
import EpsModel.Props.C17
import EpsModel.Props.C18
import EpsModel.Props.C19
